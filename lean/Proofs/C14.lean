import Model.Timeouts
/-!
# C14 — no peer can hold a session or delivery attempt beyond its configured timeouts

Theorems over `Model/Timeouts.lean`, for every behaviour of the peer (any gaps between the pieces
a step needs, any number of pieces, pieces that never come): a scoped wait ends within its
limit; a sequence of waits that all have a scope never hangs, ends within the sum of the limits, and when it is
cut, the time since the last completed step is exactly the limit of the step that was cut; every
blocking step in the code's table has a scope.
-/
namespace Slimta.C14
open Slimta.Timeouts

theorem runWait_scoped (c : Cfg) (w : Wait) (T : Nat) (h : limit c w.scope = some T) :
    (∃ n, runWait c w = .done n ∧ n ≤ T ∧ need w.gaps = some n) ∨ runWait c w = .timedOut T := by
  unfold runWait
  rw [h]
  cases hn : need w.gaps with
  | none => right; rfl
  | some n =>
    by_cases hle : n ≤ T
    · left; exact ⟨n, by simp [hle], hle, rfl⟩
    · right; simp [hle]

/-- **The data timeout is cumulative** (and so is the command timeout over the assembly of one
    line): however many pieces the peer sends and however it spaces them, a wait in a scope lasts at
    most the scope's limit. -/
theorem wait_bounded (c : Cfg) (w : Wait) (T : Nat) (h : limit c w.scope = some T) :
    match runWait c w with
    | .done n => n ≤ T
    | .timedOut n => n = T
    | .hung => False := by
  rcases runWait_scoped c w T h with ⟨n, hr, hle, _⟩ | hr <;> simp [hr]
  exact hle

theorem runWait_timedOut {c : Cfg} {w : Wait} {m : Nat} (h : runWait c w = .timedOut m) : limit c w.scope = some m := by
  unfold runWait at h
  split at h <;> (try split at h) <;> simp_all

theorem need_replicate (g k : Nat) : need (List.replicate k (some g)) = some (k * g) := by
  induction k with
  | zero => simp [need]
  | succ n ih => simp [List.replicate_succ, need, ih, Nat.succ_mul, Nat.add_comm]

/-- **Steady is not enough**: a peer that delivers everything the step needs, each piece well within the limit, but
    takes longer than the limit in all (`k * g > T`), is cut at the limit — the step does not complete, however small `g` is. (The
    correspondence runs exactly this: a command / a message in pieces a third / a quarter of the timeout apart, twice the timeout
    in all.) -/
theorem steady_but_slow_is_cut (c : Cfg) (s : Scope) (T g k : Nat) (h : limit c s = some T) (hslow : T < k * g) :
    runWait c { scope := s, gaps := List.replicate k (some g) } = .timedOut T := by
  unfold runWait
  simp only [h, need_replicate]
  simp [Nat.not_le.mpr hslow]

example : runWait { command := 80, data := 200, connect := 80, single := 80 } { scope := .data, gaps := List.replicate 8 (some 50) }
    = .timedOut 200 := by decide

def allScoped (ws : List Wait) : Prop := ∀ w ∈ ws, w.scope ≠ .unscoped

theorem limit_of_scoped (c : Cfg) (s : Scope) (h : s ≠ .unscoped) : ∃ T, limit c s = some T := by
  cases s <;> simp [limit] at h ⊢

def budget (c : Cfg) : List Wait → Nat
  | [] => 0
  | w :: ws => (limit c w.scope).getD 0 + budget c ws

/-- **No hang, bounded total**: a sequence of waits that all have a scope, against any peer, ends — completed or
    cut by a timeout — within the sum of the limits. -/
theorem session_bounded (c : Cfg) (k : Nat) (ws : List Wait) (h : allScoped ws) :
    (∀ j, (runAll c k ws).2 ≠ .hung j) ∧ (runAll c k ws).1 ≤ budget c ws := by
  induction ws generalizing k with
  | nil => simp [runAll, budget]
  | cons w ws ih =>
    obtain ⟨T, hT⟩ := limit_of_scoped c w.scope (h w (by simp))
    have ih' := ih (k + 1) (fun x hx => h x (by simp [hx]))
    simp only [runAll, budget, hT, Option.getD_some]
    rcases runWait_scoped c w T hT with ⟨n, hr, hle, _⟩ | hr
    · simp only [hr]
      refine ⟨ih'.1, ?_⟩
      have := ih'.2
      omega
    · simp only [hr]
      exact ⟨by simp, by omega⟩

/-- **Cut exactly at the limit of the stalled step**: when the sequence ends by a timeout at
    step `j`, the time since the last completed step is that step's own limit — the command timeout
    after the last completed command, the data timeout for the DATA phase. -/
theorem cut_at_own_limit (c : Cfg) (k : Nat) (ws : List Wait) (j n : Nat) (h : (runAll c k ws).2 = .timedOut j n) :
    k ≤ j ∧ ∃ w, ws[j - k]? = some w ∧ limit c w.scope = some n := by
  induction ws generalizing k with
  | nil => simp [runAll] at h
  | cons w ws ih =>
    simp only [runAll] at h
    cases hr : runWait c w with
    | done m =>
      simp only [hr] at h
      obtain ⟨hk, w', hw', hl⟩ := ih (k + 1) h
      refine ⟨by omega, w', ?_, hl⟩
      have : j - k = (j - (k + 1)) + 1 := by omega
      rw [this, List.getElem?_cons_succ]; exact hw'
    | timedOut m =>
      simp only [hr, Ending.timedOut.injEq] at h
      obtain ⟨rfl, rfl⟩ := h
      exact ⟨Nat.le_refl _, w, by simp, runWait_timedOut hr⟩
    | hung => simp [hr] at h

/-- The printed table (`timeouts table`, which the source-extracted table is compared with on every run) lists every stage. -/
theorem all_stages_listed : (∀ st : ServerStage, st ∈ allServerStages) ∧ (∀ st : RelayStage, st ∈ allRelayStages) := by
  constructor <;> intro st <;> cases st <;> decide

theorem other_every_block_scoped (st : OtherStage) : otherScope st ≠ .unscoped := by
  cases st <;> simp [otherScope]

/-- **Every blocking step of a server session has a scope**: the wait for a command, the DATA
    phase, the wait for an AUTH response, both TLS handshakes, and the closing of the session. -/
theorem server_every_block_scoped (st : ServerStage) : serverScope st ≠ .unscoped := by
  cases st <;> simp [serverScope]

theorem relay_every_block_scoped (st : RelayStage) : relayScope st ≠ .unscoped := by
  cases st <;> simp [relayScope]

/-- A server session against any peer: whatever stages it goes through and whatever the peer does
    in each, it never hangs and lasts at most the sum of the limits of its steps. -/
theorem server_session_bounded (c : Cfg) (steps : List (ServerStage × List (Option Nat))) :
    let ws := steps.map fun s => ({ scope := serverScope s.1, gaps := s.2 } : Wait)
    (∀ j, (runAll c 0 ws).2 ≠ .hung j) ∧ (runAll c 0 ws).1 ≤ budget c ws :=
  session_bounded c 0 _ (List.forall_mem_map.mpr fun s _ => server_every_block_scoped s.1)

theorem relay_attempt_bounded (c : Cfg) (steps : List (RelayStage × List (Option Nat))) :
    let ws := steps.map fun s => ({ scope := relayScope s.1, gaps := s.2 } : Wait)
    (∀ j, (runAll c 0 ws).2 ≠ .hung j) ∧ (runAll c 0 ws).1 ≤ budget c ws :=
  session_bounded c 0 _ (List.forall_mem_map.mpr fun s _ => relay_every_block_scoped s.1)

/-- What an unscoped wait means: a peer that never sends hangs it (this is what each of the
    repaired defects was). -/
theorem unscoped_can_hang (c : Cfg) : runWait c { scope := .unscoped, gaps := [none] } = .hung := rfl

/-! Non-vacuity -/
example : runAll { command := 80, data := 200, connect := 80, single := 80 } 0
    [{ scope := .command, gaps := [some 10] }, { scope := .data, gaps := [some 50, some 50, some 50, some 50, none] }] =
    (210, .timedOut 1 200) := by decide

end Slimta.C14
