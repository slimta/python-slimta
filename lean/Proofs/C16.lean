import Proofs.Lemmas.Policy
/-!
# C16 — queue policies conserve recipients and content

Model: `Model/Policy.lean` (`Queue._run_policies`, the split / forward /
header policies, `Envelope.copy`). The regex results of `Forward` and the domain of an address are
oracle functions in `Cfg`: every theorem holds for all of them.
-/
namespace Slimta.C16
open Slimta.Policy

theorem good_init (e : Env) : Good { results := [e], next := e.eid + 1 } :=
  ⟨by simp, by intro x hx; simp at hx; subst hx; simp⟩

theorem runPolicies_spec (cfg : Cfg) (ps : List Pol) (e : Env) :
    (eids (runPolicies cfg ps e)).Nodup ∧ (slotsOf (runPolicies cfg ps e)).Perm (slots e) ∧
    ∀ o ∈ runPolicies cfg ps e, o.sender = e.sender ∧ o.body = e.body := by
  obtain ⟨g, -, out, ho, hs, hb⟩ := recurse_spec cfg ps e _ (good_init e) [] (.refl _)
  rw [List.append_nil] at ho
  refine ⟨g.nodup, (ho.flatMap_right slots).trans (by simpa [slotsOf] using hs), fun o h => ?_⟩
  obtain ⟨_, he, hsb⟩ := hb o (ho.subset h)
  exact List.mem_singleton.mp he ▸ hsb

/-- **Recipients are conserved.** For every envelope and every chain of policies (any order, any
    repetition, including a policy that returns its input among its outputs), the envelopes handed
    to storage together carry each recipient position of the original exactly once. -/
theorem recipients_conserved (cfg : Cfg) (ps : List Pol) (e : Env) :
    (slotsOf (runPolicies cfg ps e)).Perm (slots e) :=
  (runPolicies_spec cfg ps e).2.1

/-- **Sender and body are conserved** in every output. -/
theorem sender_body_conserved (cfg : Cfg) (ps : List Pol) (e : Env) :
    ∀ o ∈ runPolicies cfg ps e, o.sender = e.sender ∧ o.body = e.body :=
  (runPolicies_spec cfg ps e).2.2

/-- **No two outputs are the same object**: every output has its own identity, and with it its
    own recipient list and header object (a deep copy allocates both). -/
theorem outputs_distinct (cfg : Cfg) (ps : List Pol) (e : Env) :
    (eids (runPolicies cfg ps e)).Nodup :=
  (runPolicies_spec cfg ps e).1

/-- **A recipient matching no forwarding rule is left unchanged.** -/
theorem forward_unmatched_unchanged (cfg : Cfg) (v : Nat) (rules : List Nat)
    (h : ∀ r ∈ rules, (cfg.subn r v).2.1 = 0) : forwardOne cfg v rules = v := by
  induction rules with
  | nil => rfl
  | cons r rest ih =>
    rw [List.forall_mem_cons] at h
    simp [forwardOne, h.1, ih h.2]

/-- Forwarding rewrites values in place and keeps every recipient position. -/
theorem forward_keeps_slots (cfg : Cfg) (rules : List Nat) (e : Env) (n : Nat) :
    slots (apply cfg (.forward rules) e n).1 = slots e ∧ (apply cfg (.forward rules) e n).2.1 = none := by
  simp [apply, slots, List.map_map, Function.comp_def]

/-- `if name not in headers: headers[name] = …` for one header name. -/
theorem add_if_absent (h : Hdr) (l : List Hdr) :
    (if hasHdr h l then l else l ++ [h]).count h = max 1 (l.count h) ∧
    (0 < l.count h → (if hasHdr h l then l else l ++ [h]) = l) := by
  have hc : hasHdr h l = true ↔ 0 < l.count h := by simp [hasHdr, List.count_pos_iff]
  by_cases hp : 0 < l.count h
  · simp [hc.mpr hp]; omega
  · simp [mt hc.mp hp, List.count_append, Nat.eq_zero_of_not_pos hp]

/-- **Date and Message-Id are added only when absent.** -/
theorem date_msgid_once (cfg : Cfg) (e : Env) (n : Nat) :
    (apply cfg .addDate e n).1.hdrs.count .date = max 1 (e.hdrs.count .date) ∧
    (apply cfg .addMsgId e n).1.hdrs.count .msgid = max 1 (e.hdrs.count .msgid) ∧
    (0 < e.hdrs.count .date → (apply cfg .addDate e n).1.hdrs = e.hdrs) ∧
    (0 < e.hdrs.count .msgid → (apply cfg .addMsgId e n).1.hdrs = e.hdrs) :=
  ⟨(add_if_absent .date e.hdrs).1, (add_if_absent .msgid e.hdrs).1, (add_if_absent .date e.hdrs).2, (add_if_absent .msgid e.hdrs).2⟩

/-- **A new Received header is placed first**, the others follow unchanged. -/
theorem received_first (cfg : Cfg) (e : Env) (n : Nat) :
    (apply cfg .addReceived e n).1.hdrs = .received :: e.hdrs := by
  simp [apply]

/-! ### non-vacuity -/

example :
    let cfg : Cfg := { domKey := fun v => if v < 10 then some (v % 2) else none, subn := fun _ v => (v + 100, 1, true) }
    (runPolicies cfg [.peel, .domainSplit, .forward [0], .split] ⟨0, 1, 2, [(0, 4), (1, 5), (2, 6), (3, 11)], []⟩).map (·.rcpts)
      = [[(0, 104)], [(1, 105)], [(2, 106)], [(3, 111)]] := by decide

end Slimta.C16
