import Proofs.Lemmas.QueueM
import Proofs.Lemmas.Bounce
import Proofs.C20
/-!
# C13 — failed mail yields exactly one bounce per distinct failure reply; bounces never loop

Model: `Model/Attempt.lean` (`Queue._attempt`, `_handle_partial_relay`, `_retry_later`, `_perm_fail`, `_split_by_reply`), then
the same under every interleaving of the composed machine (`Model/QueueM.lean`). Byte-level content of a bounce (quoting,
embedding the original unchanged; `Model/Bounce.lean`) rests on C20's `parse_flatten` (`Bounce` parses its own text with
`Envelope.parse`) and is checked on the real `Bounce` by the campaign.
-/
namespace Slimta.C13
open Slimta.Attempt

/-- **One bounce per distinct reply, naming exactly the recipients that failed with it.** For every
    list of (recipient, reply) failures: the bounces have pairwise different replies; every reply
    that occurs has its bounce; a bounce names only recipients that failed with its reply, and at
    least one; together the bounces name every failed recipient exactly as often as it failed. -/
theorem one_bounce_per_reply (cfg : Cfg) (hs : cfg.senderNonEmpty = true) (hf : cfg.factoryBounces = true)
    (pairs : List (Rcpt × ReplyId)) (tm : Bool) :
    ((bouncesFor cfg pairs tm).map (·.reply)).Nodup ∧
    (∀ p ∈ pairs, p.2 ∈ (bouncesFor cfg pairs tm).map (·.reply)) ∧
    (∀ b ∈ bouncesFor cfg pairs tm, b.rcpts ≠ [] ∧ b.tooMany = tm ∧ ∀ rc ∈ b.rcpts, (rc, b.reply) ∈ pairs) ∧
    (∀ x, ((bouncesFor cfg pairs tm).flatMap (·.rcpts)).count x = (pairs.map Prod.fst).count x) := by
  have hb : bouncesFor cfg pairs tm = (splitByReply pairs []).map fun (rp, g) => ⟨rp, g, tm⟩ := by
    simp [bouncesFor, hs, hf]
  have hk : (bouncesFor cfg pairs tm).map (·.reply) = keys (splitByReply pairs []) := by
    rw [hb]; simp [keys, List.map_map, Function.comp_def]
  refine ⟨?_, ?_, ?_, ?_⟩
  · rw [hk]; exact nodup_keys_splitByReply pairs [] (by simp [keys])
  · rw [hk]; exact keys_complete pairs
  · intro b hbm
    rw [hb] at hbm
    simp only [List.mem_map] at hbm
    obtain ⟨g, hg, rfl⟩ := hbm
    have := sound_splitByReply pairs g hg
    exact ⟨this.1, rfl, this.2⟩
  · exact (QM.bouncesIf_eq cfg pairs tm ▸ QM.bok_groups _ pairs tm).count (by simp [hs, hf])

/-- **No bounce for a message with an empty sender** — whatever the attempt's outcome. A bounce
    itself has the empty sender, so a bounce that fails is dropped, never bounced again. -/
theorem null_sender_never_bounces (cfg : Cfg) (hs : cfg.senderNonEmpty = false) (m : Msg) (o : Outcome) :
    (attempt cfg m o).bounces = [] :=
  (QM.attempt_bok cfg m o).quiet (by simp [hs])

/-- **The bounces of an attempt name exactly its finally-failed recipients**, each as often as it failed in it (once, when the
    recipients are distinct); delivered and still-outstanding recipients are never named. For every outcome of an attempt. -/
theorem bounces_name_exactly_the_failed (cfg : Cfg) (hs : cfg.senderNonEmpty = true)
    (hf : cfg.factoryBounces = true) (m : Msg) (o : Outcome) (x : Rcpt) :
    ((attempt cfg m o).bounces.flatMap (·.rcpts)).count x = ((attempt cfg m o).failed.map Prod.fst).count x :=
  (QM.attempt_bok cfg m o).count (by simp [hs, hf]) x

/-- A custom bounce factory returning `None` produces nothing. -/
theorem factory_none_no_bounce (cfg : Cfg) (hf : cfg.factoryBounces = false) (pairs) (tm : Bool) :
    bouncesFor cfg pairs tm = [] := by simp [bouncesFor, hf]

example : (attempt ⟨fun _ => none, true, true⟩ ⟨[10, 11, 12, 13], 0⟩
    (.mapping [(10, .perm 5), (11, .temp 7), (12, .perm 5), (13, .temp 8)])).bounces
    = [⟨5, [10, 12], false⟩, ⟨7, [11], true⟩, ⟨8, [13], true⟩] := by decide

section composed
open Slimta.QM
variable {fb : Bool} {pre : List (Nat × Nat)} {rc : Nat → List Rcpt} {nn : Nat → Bool} {att : Nat → Nat}

/-- **No bounce for a null sender, ever**: in every reachable state of the composed machine the list of bounces asked for a
    message with an empty sender is empty — so a bounce that itself fails is dropped. -/
theorem null_sender_no_bounce_interleaved (hpre : (pre.map (·.1)).Nodup) (hrc : ∀ id ∈ pre.map (·.1), (rc id).Nodup) {q : State}
    (hr : Reach fb (startAt pre rc nn att) q) (id : Nat) (hn : q.nonNull id = false) : q.bounces id = [] :=
  (reach_inv hpre hrc hr).led.quiet id (by simp [hn])

/-- **No recipient is bounced twice, and nobody who did not fail is bounced**, under every interleaving (when bounces are
    produced): over all the bounces asked for a message, a recipient that failed for good is named exactly once, every other
    accepted recipient never. -/
theorem each_failed_recipient_bounced_once (hpre : (pre.map (·.1)).Nodup) (hrc : ∀ id ∈ pre.map (·.1), (rc id).Nodup) {q : QM.State}
    (hr : QM.Reach fb (QM.startAt pre rc nn att) q) (id : Nat) (r : List Rcpt) (ho : q.orig id = some r) (x : Rcpt) (hx : x ∈ r)
    (hb : (fb && q.nonNull id) = true) :
    ((q.bounces id).flatMap (·.rcpts)).count x = if x ∈ (q.failed id).map Prod.fst then 1 else 0 := by
  have h := QM.reach_inv hpre hrc hr
  have h2 := h.count_one ho x
  rw [h.led.bcount id x hb]
  by_cases hf : x ∈ (q.failed id).map Prod.fst
  · have := List.count_pos_iff.mpr hf
    simp only [hx, hf, if_true] at h2 ⊢; omega
  · simp only [hf, if_false]; exact List.count_eq_zero_of_not_mem hf

/-- **Whoever failed for good is named in a bounce quoting the reply it failed with**, under every interleaving. -/
theorem failed_are_bounced_interleaved (hpre : (pre.map (·.1)).Nodup) (hrc : ∀ id ∈ pre.map (·.1), (rc id).Nodup) {q : QM.State}
    (hr : QM.Reach fb (QM.startAt pre rc nn att) q) (id : Nat) (x : Rcpt) (r : ReplyId) (hx : (x, r) ∈ q.failed id)
    (hb : (fb && q.nonNull id) = true) : ∃ b ∈ q.bounces id, b.reply = r ∧ x ∈ b.rcpts :=
  (QM.reach_inv hpre hrc hr).led.bounced id x r hx hb

end composed

/-! ## The bytes of a bounce (Model/Bounce.lean: BytesFormat, Bounce._build_message, then Envelope.parse / flatten)

"quoting the reply, and embedding the original header block (and body unless headers-only) unchanged" as theorems about the
message the bounce envelope flattens to, for any templates (`bounce_embeds_original`) and spelled out for the default
templates of slimta/bounce (`default_bounce`, `default_bounce_quotes_reply`, `default_bounce_embeds`). The default template text
in the model is compared with the module-level templates of the source on every run (`bounce default`). -/
section content
open Slimta.Bounce Slimta.C20

/-- **The original message is embedded unchanged** (any templates): if the formatted header template begins with a well-formed
    header block and a blank line, the bounce flattens to that block (CRLF line ends) and a body that is the rest of the
    formatted template, then the original header data, then the original message data (unless headers-only), then the footer. -/
theorem bounce_embeds_original (hdr ftr : List Part) (x : Input) (ls : List Line) (hne : ls ≠ []) (hwf : ∀ l ∈ ls, l.WF)
    (nl rest : Bytes) (hn : nl = [10] ∨ nl = [13, 10])
    (hfmt : format true (table x) hdr = block ls ++ (nl ++ rest)) :
    build hdr ftr x = (block (crlfLines ls) ++ [13, 10],
      rest ++ (x.origHeader ++ ((if x.headersOnly then [] else x.origBody) ++ format true (table x) ftr))) := by
  unfold build payload
  rw [hfmt]
  have := parse_flatten ls hne hwf nl (rest ++ (x.origHeader ++ ((if x.headersOnly then [] else x.origBody) ++ format true (table x) ftr))) hn
  simpa [List.append_assoc] using this

def NoEol (b : Bytes) : Prop := ∀ c ∈ b, c ≠ 10 ∧ c ≠ 13

/-- The header block of a bounce built from the default template. -/
def defaultLines (x : Input) : List Line :=
  [⟨str "From: MAILER-DAEMON", CRLF⟩, ⟨str "To: " ++ x.sender, CRLF⟩,
   ⟨str "Subject: Undelivered Mail Returned to Sender", CRLF⟩, ⟨str "Auto-Submitted: auto-replied", CRLF⟩,
   ⟨str "MIME-Version: 1.0", CRLF⟩, ⟨str "Content-Type: multipart/report; report-type=delivery-status;", CRLF⟩,
   ⟨str "    boundary=\"" ++ (x.boundary ++ str "\""), CRLF⟩, ⟨str "Content-Transfer-Encoding: 7bit", CRLF⟩]

/-- The text parts of the default template before the original message. -/
def defaultPreamble (x : Input) : Bytes :=
  str "This is a multi-part message in MIME format.\r\n\r\n--" ++ (x.boundary ++ (str "\r\nContent-Type: text/plain\r\n\r\nDelivery failed for:\r\n- " ++
  (x.rcpts ++ (str "\r\n\r\nDestination host responded:\r\n" ++ (x.info.code ++ (str " " ++ (x.info.message ++ (str "\r\n\r\n--" ++ (x.boundary ++
  (str "\r\nContent-Type: message/delivery-status\r\n\r\n" ++ (deliveryInfo x.info ++ (str "\r\n\r\n--" ++ (x.boundary ++ (str "\r\nContent-Type: " ++
  ((if x.headersOnly then str "text/rfc822-headers" else str "message/rfc822") ++ str "\r\n\r\n")))))))))))))))

theorem default_format (x : Input) :
    format true (table x) defaultHdr = block (defaultLines x) ++ (CRLF ++ defaultPreamble x) := by
  rw [defaultHdr_parts]
  simp only [format, table, str_beq, String.reduceEq, decide_false, decide_true, Bool.false_eq_true, if_false, if_true]
  simp [block, defaultLines, defaultPreamble, List.append_assoc]

theorem default_footer (x : Input) : format true (table x) defaultFtr = str "\r\n--" ++ (x.boundary ++ str "--\r\n") := by
  rw [defaultFtr_parts]
  simp [format, table]

theorem defaultLines_wf (x : Input) (hs : NoEol x.sender) (hb : NoEol x.boundary) : ∀ l ∈ defaultLines x, l.WF := by
  have app : ∀ {a b : Bytes}, NoEol a → NoEol b → NoEol (a ++ b) :=
    fun ha hb c hc => (List.mem_append.mp hc).elim (ha c) (hb c)
  -- a line that begins with a literal `p`
  have wf : ∀ p v : Bytes, Line.WF ⟨p, CRLF⟩ → NoEol v → Line.WF ⟨p ++ v, CRLF⟩ := fun p v ⟨h1, ⟨b, hb, hw⟩, h3⟩ hv =>
    ⟨app h1 hv, ⟨b, List.mem_append_left _ hb, hw⟩, h3⟩
  simp only [defaultLines, List.forall_mem_cons, List.not_mem_nil, false_imp_iff, implies_true, and_true]
  refine ⟨?_, wf _ _ ?_ hs, ?_, ?_, ?_, ?_, wf _ _ ?_ (app hb ?_), ?_⟩
  -- what is left says of a literal of the template that it has no line break in it and is not all white space
  all_goals (simp only [Line.WF, NoEol, str_data]; decide +kernel)

/-- **A bounce built from the default templates**, for every original sender and boundary string without a line break, every
    recipient list, reply, client information, original header data and original message data: its header block is the eight
    lines of the template (addressed `To:` the original sender), and its body is the template's text parts — naming the
    recipients and quoting `code message` —, then the ORIGINAL HEADER DATA AND MESSAGE DATA, BYTE FOR BYTE (header data only
    when headers-only), then the closing boundary. -/
theorem default_bounce (x : Input) (hs : NoEol x.sender) (hb : NoEol x.boundary) :
    build defaultHdr defaultFtr x = (block (crlfLines (defaultLines x)) ++ [13, 10],
      defaultPreamble x ++ (x.origHeader ++ ((if x.headersOnly then [] else x.origBody) ++ (str "\r\n--" ++ (x.boundary ++ str "--\r\n"))))) := by
  have h := bounce_embeds_original defaultHdr defaultFtr x (defaultLines x) (by simp [defaultLines]) (defaultLines_wf x hs hb)
    CRLF (defaultPreamble x) (Or.inr rfl) (default_format x)
  rw [h, default_footer]

/-- The reply is quoted: `code message` stands in the bounce body. -/
theorem default_bounce_quotes_reply (x : Input) (hs : NoEol x.sender) (hb : NoEol x.boundary) :
    (x.info.code ++ (str " " ++ x.info.message)) <:+: (build defaultHdr defaultFtr x).2 := by
  rw [default_bounce x hs hb, defaultPreamble]
  simp only [List.append_assoc]
  -- five parts stand before the code
  iterate 5 apply List.infix_append_of_infix_right
  exact ⟨[], _, by rw [List.nil_append, List.append_assoc, List.append_assoc]⟩

/-- The original is embedded: header data followed by message data stand in the bounce body. -/
theorem default_bounce_embeds (x : Input) (hs : NoEol x.sender) (hb : NoEol x.boundary) (hh : x.headersOnly = false) :
    (x.origHeader ++ x.origBody) <:+: (build defaultHdr defaultFtr x).2 := by
  rw [default_bounce x hs hb]
  refine ⟨defaultPreamble x, str "\r\n--" ++ (x.boundary ++ str "--\r\n"), ?_⟩
  simp [hh, List.append_assoc]


/-- non-vacuity: the template scanner on stray braces -/
example : parseTemplate (str "a{b}c{{d}{}e{f_1}") =
    [.lit (str "a"), .key (str "b"), .lit (str "c{"), .key (str "d"), .lit (str "{}e"), .key (str "f_1")] := by
  simp only [str_data]; decide +kernel

end content

end Slimta.C13
