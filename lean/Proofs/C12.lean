import Proofs.Lemmas.Sched
/-!
# C12 — a queued message is attempted when due, never early, and never forgotten; flush

Theorems over `Model/Sched.lean`, for every interleaving of its labels under `calm`, the one environment assumption: the storage
does not announce a message while this queue's `enqueue` is between the write and the hand-off of that same message, nor while a
`_dequeue` task for it is pending. Without it the property is false of the model *and* of the code (`never_early_needs_calm`;
known finding of C12).
-/
namespace Slimta.C12
open Slimta.Sched

def calm (s : State) : Label → Prop
  | .announce id _ => id ∉ s.written ∧ id ∉ dIds s
  | _ => True

inductive Reach (s0 : State) : State → Prop
  | init : Reach s0 s0
  | step {s s' : State} {l : Label} : Reach s0 s → calm s l → step s l = some s' → Reach s0 s'

/-- The invariant; `ex` names a message that is momentarily in no list (inside an atomic section). A label that moves a message
    is proved in two halves: taking it out of its list leaves `InvX (some id)` of a state the machine never rests in (only `tracked`
    is weaker there), and putting it into the next list gives `Inv` back (`inv_handOff`, `inv_insert`). -/
structure InvX (ex : Option Nat) (s : State) : Prop where
  sNodup : (sIds s).Nodup
  known : ∀ id, (id ∈ qIds s ∨ id ∈ dIds s ∨ id ∈ s.active ∨ id ∈ s.written) → id ∈ s.known
  written : ∀ id ∈ s.written, id ∉ s.active ∧ id ∉ qIds s ∧ id ∉ dIds s ∧ ∃ ts, (id, ts) ∈ s.stored ∧ ts ≤ s.now
  act : ∀ id, id ∈ s.active ↔ (id ∈ s.inflight ∨ id ∈ s.retry ∨ id ∈ s.retrying ∨ id ∈ s.rem)
  excl : ∀ id, (id ∈ s.inflight → id ∉ s.retry ∧ id ∉ s.retrying ∧ id ∉ s.rem) ∧ (id ∈ s.retry → id ∉ s.retrying ∧ id ∉ s.rem) ∧
    (id ∈ s.retrying → id ∉ s.rem)
  actFree : ∀ id ∈ s.active, id ∉ qIds s ∧ id ∉ dIds s
  actStored : ∀ id ∈ s.active, id ∈ sIds s
  nodup : (qIds s ++ dIds s).Nodup
  qids : ∀ id, id ∈ s.queuedIds ↔ id ∈ qIds s
  entryTs : ∀ e ∈ s.queued, (e.2, e.1) ∈ s.stored
  deqStored : ∀ d ∈ s.deq, ∃ ts, (d.1, ts) ∈ s.stored ∧ (d.2 ≠ .flush → ts ≤ s.now)
  sorted : Sorted s.queued
  timer : ∀ tm, s.asleep = some tm → s.wake = true ∨ s.poked = true ∨ ∀ e ∈ s.queued, ∃ u, tm = some u ∧ u ≤ e.1
  tracked : ∀ id ∈ s.known, id ∈ sIds s → ex = some id ∨ id ∈ s.written ∨ id ∈ s.active ∨ id ∈ dIds s ∨ id ∈ qIds s
  early : ∀ x ∈ s.log, x.2.2.2 ≠ .flush → x.2.2.1 ≤ x.2.1
  oneFlight : s.inflight.Nodup

abbrev Inv := InvX none

/-- A queue that starts on a storage already holding messages (distinct ids). -/
def start (pre : List (Nat × Nat)) : State := { stored := pre }

/- `have := h.clause x; grind only […]` below: the clause of the new state at `x` follows from the same clause of the old state
   at `x` (and the facts about the one message that moves) by membership reasoning over the id lists, with the definitions and
   membership lemmas listed; a bare `by grind only` rules out a branch of `_add_queued` the same way. -/
theorem inv_start (pre : List (Nat × Nat)) (h : (pre.map (·.1)).Nodup) : Inv (start pre) := by
  -- every list of `start pre` but `stored` is empty: the clauses left open hold vacuously
  refine ⟨h, ?_, ?_, ?_, ?_, ?_, ?_, .nil, ?_, ?_, ?_, .nil, ?_, ?_, ?_, .nil⟩ <;> simp [start, qIds, dIds]

theorem inv_tick {ex : Option Nat} (s : State) (dt : Nat) (h : InvX ex s) : InvX ex { s with now := s.now + dt } :=
  { h with
    written := fun id hid => by
      obtain ⟨a, b, c, ts, d, e⟩ := h.written id hid
      exact ⟨a, b, c, ts, d, Nat.le_trans e (Nat.le_add_right _ _)⟩
    deqStored := fun d hd => by
      obtain ⟨ts, a, b⟩ := h.deqStored d hd
      exact ⟨ts, a, fun hc => Nat.le_trans (b hc) (Nat.le_add_right _ _)⟩ }

/-- The loop's own fields (`asleep`, `turn`, `wake`, `poked`) matter to `timer` alone. -/
theorem inv_loop {ex : Option Nat} (s : State) {a : Option (Option Nat)} {t w p : Bool} (h : InvX ex s)
    (ht : ∀ tm, a = some tm → w = true ∨ p = true ∨ ∀ e ∈ s.queued, ∃ u, tm = some u ∧ u ≤ e.1) :
    InvX ex { s with asleep := a, turn := t, wake := w, poked := p } :=
  { h with timer := ht }

theorem inv_done {ex : Option Nat} (s : State) (id : Nat) (ok : Bool) (h : InvX ex s) (hin : id ∈ s.inflight) :
    InvX ex (if ok then { s with inflight := without s.inflight id, rem := id :: s.rem }
         else { s with inflight := without s.inflight id, retry := id :: s.retry }) := by
  have hex := (h.excl id).1 hin
  cases ok <;> exact { h with
    act := fun x => by have := h.act x; grind only [= mem_without, = List.mem_cons]
    excl := fun x => by have := h.excl x; grind only [= mem_without, = List.mem_cons]
    oneFlight := h.oneFlight.sublist List.filter_sublist }

theorem inv_write {ex : Option Nat} (s : State) (id ts : Nat) (h : InvX ex s) (hk : id ∉ s.known) (hs : id ∉ sIds s) (hts : ts ≤ s.now) :
    InvX ex { s with stored := (id, ts) :: s.stored, written := id :: s.written, known := id :: s.known } := by
  have hfresh := fun hc => hk (h.known id hc)
  exact { h with
    sNodup := List.nodup_cons.mpr ⟨hs, h.sNodup⟩
    known := fun x hx => by have := h.known x; grind only [qIds, dIds, = List.mem_cons]
    written := fun x hx => by have := h.written x; grind only [qIds, dIds, = List.mem_cons]
    actStored := fun x hx => List.mem_cons_of_mem _ (h.actStored x hx)
    entryTs := fun e he => List.mem_cons_of_mem _ (h.entryTs e he)
    deqStored := fun d hd => by
      obtain ⟨t, a, b⟩ := h.deqStored d hd
      exact ⟨t, List.mem_cons_of_mem _ a, b⟩
    tracked := fun x hx hxs => by have := h.tracked x; grind only [sIds, qIds, dIds, = List.mem_cons, = List.map_cons] }

/-- Handing a message to the relay: it was in no list (the exception of `InvX`), now it is active. -/
theorem inv_handOff (s : State) (id : Nat) (c : Cause) (h : InvX (some id) s)
    (hna : id ∉ s.active) (hq : id ∉ qIds s) (hd : id ∉ dIds s) (hw : id ∉ s.written) (hk : id ∈ s.known)
    (hts : ∃ ts, (id, ts) ∈ s.stored ∧ (c ≠ .flush → ts ≤ s.now)) : Inv (handOff s id c) := by
  have hact := h.act id
  obtain ⟨ts, hm, hle⟩ := hts
  exact { h with
    known := fun x hx => by have := h.known x; grind only [qIds, dIds, handOff, = List.mem_cons]
    written := fun x hx => (h.written x hx).imp_left fun a hc => (List.mem_cons.mp hc).elim (fun e => hw (e ▸ hx)) a
    act := fun x => List.mem_cons.trans <|
      (or_congr_right (h.act x)).trans <| or_assoc.symm.trans (or_congr_left List.mem_cons.symm)
    excl := fun x => by have := h.excl x; grind only [handOff, = List.mem_cons]
    actFree := List.forall_mem_cons.mpr ⟨⟨hq, hd⟩, h.actFree⟩
    actStored := List.forall_mem_cons.mpr ⟨List.mem_map_of_mem hm, h.actStored⟩
    tracked := fun x hx hxs => .inr <| (h.tracked x hx hxs).elim
      (fun e => .inr (.inl (Option.some.inj e ▸ .head _))) (.imp_right (.imp_left (.tail _)))
    early := List.forall_mem_cons.mpr
      ⟨fun hc => by simpa only [tsOf_some h.sNodup hm, Option.getD_some] using hle hc, h.early⟩
    oneFlight := List.nodup_cons.mpr ⟨fun hc => hna (hact.mpr (.inl hc)), h.oneFlight⟩ }

theorem inv_activate (s : State) (id : Nat) (h : Inv s) (hw : id ∈ s.written) :
    Inv (handOff { s with written := without s.written id } id .enqueue) := by
  obtain ⟨hna, hq, hd, ts, hst, hle⟩ := h.written id hw
  refine inv_handOff _ id .enqueue { h with
      known := fun x hx => h.known x (hx.imp_right (.imp_right (.imp_right fun t => (mem_without.mp t).1)))
      written := fun x hx => h.written x (mem_without.mp hx).1
      -- `x` is the message taken out (the exception), or it is where it was
      tracked := fun x hx hxs => (h.tracked x hx hxs).elim nofun fun t =>
        (Decidable.em (x = id)).imp (congrArg some ∘ Eq.symm) fun e => t.imp_left (mem_without.mpr ⟨·, e⟩) }
    hna hq hd (fun hc => (mem_without.mp hc).2 rfl) (h.known id (.inr (.inr (.inr hw)))) ⟨ts, hst, fun _ => hle⟩

/-- `_add_queued` lets an entry in: the message is tracked through the timetable from now on. -/
theorem inv_insert (s : State) (ts id : Nat) (h : InvX (some id) s)
    (hq : id ∉ s.queuedIds) (ha : id ∉ s.active) (hd : id ∉ dIds s) (hw : id ∉ s.written) (hk : id ∈ s.known)
    (hst : (id, ts) ∈ s.stored) :
    Inv { s with queued := insort (ts, id) s.queued, queuedIds := id :: s.queuedIds, wake := true } := by
  have hqi : id ∉ qIds s := fun hc => hq ((h.qids id).mpr hc)
  have hm : ∀ x, x ∈ (insort (ts, id) s.queued).map (·.2) ↔ x = id ∨ x ∈ qIds s := fun x =>
    ((insort_perm _ _).map _).mem_iff.trans List.mem_cons
  exact { h with
    known := fun x hx => hx.elim (fun t => ((hm x).mp t).elim (· ▸ hk) (h.known x ∘ .inl)) (h.known x ∘ .inr)
    written := fun x hx =>
      (h.written x hx).imp_right (.imp_left fun b hc => ((hm x).mp hc).elim (fun e => hw (e ▸ hx)) b)
    actFree := fun x hx => ⟨fun hc => ((hm x).mp hc).elim (fun e => ha (e ▸ hx)) (h.actFree x hx).1, (h.actFree x hx).2⟩
    nodup := by
      have hp := ((insort_perm (ts, id) s.queued).map (·.2)).append_right (dIds s)
      exact hp.nodup_iff.mpr (List.nodup_cons.mpr ⟨fun hc => (List.mem_append.mp hc).elim hqi hd, h.nodup⟩)
    qids := fun x => List.mem_cons.trans ((or_congr_right (h.qids x)).trans (hm x).symm)
    entryTs := fun e he => (mem_insort.mp he).elim (·.symm ▸ hst) (h.entryTs e)
    sorted := insort_sorted h.sorted
    timer := fun tm _ => Or.inl rfl
    tracked := fun x hx hxs => by have := h.tracked x hx hxs; grind only [dIds, qIds] }

theorem inv_announce (s : State) (id ts : Nat) (h : Inv s)
    (hst : (id, ts) ∈ s.stored ∨ (id ∈ s.known ∧ id ∈ sIds s))
    (hw : id ∉ s.written) (hd : id ∉ dIds s) :
    Inv (addQueued { s with known := if id ∈ s.known then s.known else id :: s.known } ts id) := by
  have hqids := h.qids id
  split
  · -- a known stored message is tracked somewhere: the entry cannot be let in (whatever timestamp it carries)
    rename_i hk
    have hsid : id ∈ sIds s := hst.elim List.mem_map_of_mem (·.2)
    have := h.tracked id hk hsid
    exact addQueued_cases s ts id (fun _ => h) (by grind only)
  · rename_i hk
    have hfresh := fun hc => hk (h.known id hc)
    refine addQueued_cases _ ts id (by grind only) fun hq ha => ?_
    exact inv_insert _ ts id { h with
        known := fun x hx => List.mem_cons_of_mem _ (h.known x hx)
        tracked := fun x hx hxs => (List.mem_cons.mp hx).elim (.inl ∘ congrArg some ∘ Eq.symm)
          fun hx => .inr ((h.tracked x hx hxs).resolve_left nofun) }
      hq ha hd hw (by simp) (hst.resolve_right (hk ·.1))

theorem mem_setTs_self {l : List (Nat × Nat)} {id w : Nat} (h : id ∈ l.map (·.1)) :
    (id, w) ∈ l.map (fun e => if e.1 == id then (id, w) else e) := by
  obtain ⟨e, he, hid⟩ := List.mem_map.mp h
  exact List.mem_map.mpr ⟨e, he, if_pos (by simpa using hid)⟩

theorem inv_retry_none (s : State) (id : Nat) (h : Inv s) (hin : id ∈ s.retry) :
    Inv { s with retry := without s.retry id, rem := id :: s.rem } := by
  have hex := h.excl id
  exact { h with
    act := fun x => by have := h.act x; grind only [= mem_without, = List.mem_cons]
    excl := fun x => by have := h.excl x; grind only [= mem_without, = List.mem_cons] }

/-- `_retry_later` up to `store.set_timestamp`: the due time is in storage, the message still active. -/
theorem inv_retry_some (s : State) (id w : Nat) (h : Inv s) (hin : id ∈ s.retry) :
    Inv { s with retry := without s.retry id, retrying := id :: s.retrying,
                 stored := s.stored.map (fun e => if e.1 == id then (id, w) else e) } := by
  have hact : id ∈ s.active := (h.act id).mpr (.inr (.inl hin))
  have hex := h.excl id
  obtain ⟨hq, hd⟩ := h.actFree id hact
  exact { h with
    sNodup := by simpa only [sIds, setTs_ids] using h.sNodup
    written := fun x hx => by
      obtain ⟨a, b, c, ts, d, e⟩ := h.written x hx
      exact ⟨a, b, c, ts, mem_setTs_of_ne d fun he => a (he ▸ hact), e⟩
    act := fun x => by have := h.act x; grind only [= mem_without, = List.mem_cons]
    excl := fun x => by have := h.excl x; grind only [= mem_without, = List.mem_cons]
    actStored := fun x hx => by simpa only [sIds, setTs_ids] using h.actStored x hx
    entryTs := fun e he => mem_setTs_of_ne (h.entryTs e he) fun hc => hq (hc ▸ List.mem_map_of_mem he)
    deqStored := fun d hdm => by
      obtain ⟨ts, a, b⟩ := h.deqStored d hdm
      exact ⟨ts, mem_setTs_of_ne a fun hc => hd (hc ▸ List.mem_map_of_mem hdm), b⟩
    tracked := fun x hx hxs => h.tracked x hx (by simpa only [sIds, setTs_ids] using hxs) }

/-- the end of `_retry_later`: the message is released and its entry goes into the timetable -/
theorem inv_requeue (s : State) (id ts : Nat) (h : Inv s) (hin : id ∈ s.retrying) (hts : (id, ts) ∈ s.stored) :
    Inv (addQueued { s with retrying := without s.retrying id, active := without s.active id } ts id) := by
  have hact : id ∈ s.active := (h.act id).mpr (.inr (.inr (.inl hin)))
  have hex := h.excl id
  obtain ⟨hq, hd⟩ := h.actFree id hact
  refine addQueued_cases _ ts id (fun hc => ?_) fun hq' ha' => ?_
  · exact (hc.elim (hq ∘ (h.qids id).mp) fun t => (mem_without.mp t).2 rfl).elim
  exact inv_insert _ ts id { h with
      known := fun x hx => h.known x (hx.imp_right (.imp_right (.imp_left fun t => (mem_without.mp t).1)))
      written := fun x hx => (h.written x hx).imp_left fun a hc => a (mem_without.mp hc).1
      act := fun x => by have := h.act x; grind only [= mem_without]
      excl := fun x => by have := h.excl x; grind only [= mem_without]
      actFree := fun x hx => h.actFree x (mem_without.mp hx).1
      actStored := fun x hx => h.actStored x (mem_without.mp hx).1
      tracked := fun x hx hxs => (h.tracked x hx hxs).elim nofun fun t =>
        (Decidable.em (x = id)).imp (congrArg some ∘ Eq.symm) fun e => t.imp_right (.imp_left (mem_without.mpr ⟨·, e⟩)) }
    hq' ha' hd (fun hc => (h.written id hc).1 hact) (h.known id (.inr (.inr (.inl hact)))) hts

theorem inv_remove (s : State) (id : Nat) (h : Inv s) (hin : id ∈ s.rem) :
    Inv { s with rem := without s.rem id, stored := s.stored.filter (·.1 != id),
                 queuedIds := without s.queuedIds id, active := without s.active id } := by
  have hact : id ∈ s.active := (h.act id).mpr (.inr (.inr (.inr hin)))
  have hex := h.excl id
  obtain ⟨hq, hd⟩ := h.actFree id hact
  exact { h with
    sNodup := h.sNodup.sublist (List.filter_sublist.map _)
    known := fun x hx => h.known x (hx.imp_right (.imp_right (.imp_left fun t => (mem_without.mp t).1)))
    written := fun x hx => by
      obtain ⟨a, b, c, ts, d, e⟩ := h.written x hx
      exact ⟨fun hc => a (mem_without.mp hc).1, b, c, ts, mem_filter_ne d fun he => a (he ▸ hact), e⟩
    act := fun x => by have := h.act x; grind only [= mem_without]
    excl := fun x => by have := h.excl x; grind only [= mem_without]
    actFree := fun x hx => h.actFree x (mem_without.mp hx).1
    actStored := fun x hx => mem_ids_filter.mpr ⟨h.actStored x (mem_without.mp hx).1, (mem_without.mp hx).2⟩
    qids := fun x => mem_without.trans
      ⟨fun hh => (h.qids x).mp hh.1, fun hh => ⟨(h.qids x).mpr hh, fun he => hq (he ▸ hh)⟩⟩
    entryTs := fun e he => mem_filter_ne (h.entryTs e he) fun hc => hq (hc ▸ List.mem_map_of_mem he)
    deqStored := fun d hdm => by
      obtain ⟨ts, a, b⟩ := h.deqStored d hdm
      exact ⟨ts, mem_filter_ne a fun hc => hd (hc ▸ List.mem_map_of_mem hdm), b⟩
    tracked := fun x hx hxs => by
      have hxs := mem_ids_filter.mp hxs
      have := h.tracked x hx hxs.1
      grind only [qIds, dIds, = mem_without] }

/-- Entries leave the timetable for a `_dequeue` task each (`_check_ready`: the due prefix; `flush`: all of them),
    stated for any split of the timetable. -/
theorem inv_cut {ex : Option Nat} (s : State) (due rest : List (Nat × Nat)) (Q : List Nat) (c : Cause) (h : InvX ex s)
    (hsplit : s.queued = due ++ rest) (hdue : c ≠ .flush → ∀ e ∈ due, e.1 ≤ s.now) (hQ : ∀ x, x ∈ Q ↔ x ∈ rest.map (·.2)) :
    InvX ex { s with queued := rest, queuedIds := Q, deq := s.deq ++ due.map (fun e => (e.2, c)) } := by
  have hq : ∀ x, x ∈ qIds s ↔ x ∈ due.map (·.2) ∨ x ∈ rest.map (·.2) := by
    intro x; simp only [qIds, hsplit, List.map_append, List.mem_append]
  have hd : ∀ x, x ∈ (s.deq ++ due.map (fun e => (e.2, c))).map (·.1) ↔ x ∈ dIds s ∨ x ∈ due.map (·.2) := by
    intro x; rw [dIds_append, List.mem_append]
  have hmem : ∀ e, e ∈ s.queued ↔ e ∈ due ∨ e ∈ rest := by simp [hsplit]
  exact { h with
    known := fun x hx => by have := h.known x; grind only [qIds, dIds]
    written := fun x hx => by
      obtain ⟨a, b, c', r⟩ := h.written x hx
      exact ⟨a, fun hc => b ((hq x).mpr (.inr hc)), fun hc => ((hd x).mp hc).elim c' fun t => b ((hq x).mpr (.inl t)), r⟩
    actFree := fun x hx => by
      obtain ⟨a, b⟩ := h.actFree x hx
      exact ⟨fun hc => a ((hq x).mpr (.inr hc)), fun hc => ((hd x).mp hc).elim b fun t => a ((hq x).mpr (.inl t))⟩
    nodup := by
      have h0 := h.nodup
      simp only [qIds, hsplit, List.map_append, List.append_assoc] at h0
      show (rest.map (·.2) ++ (s.deq ++ due.map (fun e => (e.2, c))).map (·.1)).Nodup
      rw [dIds_append, ← List.append_assoc]
      exact (List.perm_append_comm.nodup_iff).mp h0
    qids := hQ
    entryTs := fun e he => h.entryTs e ((hmem e).mpr (.inr he))
    deqStored := fun d hdm => by
      rcases List.mem_append.mp hdm with t | t
      · exact h.deqStored d t
      · obtain ⟨e, he, rfl⟩ := List.mem_map.mp t
        exact ⟨e.1, h.entryTs e ((hmem e).mpr (.inl he)), fun hc => hdue hc e he⟩
    sorted := (hsplit ▸ h.sorted : Sorted (due ++ rest)).sublist (List.sublist_append_right _ _)
    timer := fun tm htm => (h.timer tm htm).imp_right (.imp_right fun hall e he => hall e ((hmem e).mpr (.inr he)))
    tracked := fun x hx hxs => by have := h.tracked x hx hxs; grind only [qIds, dIds] }

theorem inv_flush (s : State) (h : Inv s) :
    Inv { s with deq := s.deq ++ s.queued.map (fun e => (e.2, Cause.flush)), queued := [], queuedIds := [] } :=
  inv_cut s s.queued [] [] .flush h (List.append_nil _).symm (fun hc => absurd rfl hc) (by simp)

theorem inv_dequeue (s : State) (id : Nat) (c : Cause) (h : Inv s) (hm : (id, c) ∈ s.deq) :
    Inv (handOff { s with deq := s.deq.erase (id, c) } id c) := by
  have hn := List.nodup_append.mp h.nodup
  have hidd : id ∈ dIds s := List.mem_map_of_mem hm
  have hsub : ∀ x, x ∈ (s.deq.erase (id, c)).map (·.1) → x ∈ dIds s := fun x hx => (List.erase_sublist.map _).subset hx
  have hne : ∀ x, x ∈ dIds s → x ≠ id → x ∈ (s.deq.erase (id, c)).map (·.1) := fun x => mem_ids_erase_of_ne (d := (id, c))
  refine inv_handOff _ id c { h with
      known := fun x hx => h.known x (hx.imp_right (.imp_left (hsub x)))
      written := fun x hx => (h.written x hx).imp_right (.imp_right (.imp_left (· ∘ hsub x)))
      actFree := fun x hx => (h.actFree x hx).imp_right (· ∘ hsub x)
      nodup := h.nodup.sublist ((List.Sublist.refl _).append (List.erase_sublist.map _))
      deqStored := fun d hdm => h.deqStored d (List.mem_of_mem_erase hdm)
      tracked := fun x hx hxs => (h.tracked x hx hxs).elim nofun fun t =>
        (Decidable.em (x = id)).imp (congrArg some ∘ Eq.symm) fun e => t.imp_right (.imp_right (.imp_left (hne x · e))) }
    (fun hc => (h.actFree id hc).2 hidd) (fun hc => hn.2.2 id hc id hidd rfl) (not_mem_ids_erase hn.2.1 hm)
    (fun hc => (h.written id hc).2.2.1 hidd) (h.known id (.inr (.inl hidd))) (h.deqStored _ hm)

theorem inv_schedCut (s : State) (h : Inv s) : Inv (schedCut s) := by
  simp only [schedCut]
  split
  · exact inv_loop s h nofun
  · exact inv_loop _
      (inv_cut s _ _ _ .sched h List.takeWhile_append_dropWhile.symm
        (fun _ e he => by simpa using List.all_eq_true.mp List.all_takeWhile e he) fun _ => Iff.rfl) nofun

/-- `_wait_ready`: the loop goes to sleep until the first remaining entry (the timetable is sorted), for
    ever when there is none, or not at all when the first entry is already due. -/
theorem inv_schedSleep (s : State) (h : Inv s) : Inv (schedSleep s) := by
  unfold schedSleep
  split
  · rename_i hh
    exact inv_loop s h fun tm _ => .inr (.inr fun e he => by simp [List.head?_eq_none_iff.mp hh] at he)
  · rename_i x hh
    split
    · refine inv_loop s h fun tm htm => .inr (.inr fun e he => ⟨x.1, ?_, head_le_of_sorted h.sorted hh he⟩)
      simpa using htm.symm
    · exact inv_loop s h nofun

/-- **The invariant is preserved by every calm step.** -/
theorem inv_step (s s' : State) (l : Label) (h : Inv s) (hc : calm s l) (hs : step s l = some s') : Inv s' := by
  cases step_cases hs with
  | write id ts hk hns hts => exact inv_write s id ts h hk hns hts
  | activate id hw _ => exact inv_activate s id h hw
  | activateActive id hw ha => exact absurd ha (h.written id hw).1
  | announce id ts hst => exact inv_announce s id ts h hst hc.1 hc.2
  | tick dt => exact inv_tick s dt h
  | sched => exact inv_schedCut s h
  | sleep => exact inv_schedSleep s h
  | dequeue id c hm => exact inv_dequeue s id c h hm
  | dequeueSkip id c hm hno =>
    -- `store.get` finds the message and `_dequeue` does not meet it active: a pending task's message is stored and waits
    obtain ⟨ts, hst, _⟩ := h.deqStored _ hm
    exact (hno.elim (· (List.mem_map_of_mem hst)) fun ha => (h.actFree id ha).2 (List.mem_map_of_mem hm)).elim
  | done id ok hm => exact inv_done s id ok h hm
  | retryNone id hm => exact inv_retry_none s id h hm
  | retrySome id w hm => exact inv_retry_some s id w h hm
  | requeue id w hm hts => exact inv_requeue s id w h hm (mem_of_tsOf hts)
  | remove id hm => exact inv_remove s id h hm
  | poke => exact inv_loop s h fun tm htm => .inr (.inl (by simp [show s.asleep = some tm from htm]))
  | flush => exact inv_flush s h

theorem InvX.wakes {ex : Option Nat} {s : State} (h : InvX ex s) {e : Nat × Nat} (he : e ∈ s.queued) :
    s.asleep = none ∨ s.wake = true ∨ s.poked = true ∨ ∃ u, s.asleep = some (some u) ∧ u ≤ e.1 := by
  cases ha : s.asleep with
  | none => exact .inl rfl
  | some tm =>
    refine .inr ((h.timer tm ha).imp_right (.imp_right fun hall => ?_))
    obtain ⟨u, rfl, hu⟩ := hall e he
    exact ⟨u, rfl, hu⟩

theorem reach_inv {pre : List (Nat × Nat)} (hpre : (pre.map (·.1)).Nodup) {s : State} (hr : Reach (start pre) s) : Inv s := by
  induction hr with
  | init => exact inv_start pre hpre
  | step _ hc hs ih => exact inv_step _ _ _ ih hc hs

/-- **Never early.** Whatever the interleaving and the backoff answers, every hand-off to the relay
    that no `flush()` asked for happens at or after the timestamp the storage holds for the message
    at that moment (the due time the backoff policy chose, or the time of the `enqueue`). -/
theorem never_early {pre : List (Nat × Nat)} (hpre : (pre.map (·.1)).Nodup) {s : State} (hr : Reach (start pre) s)
    (id t due : Nat) (c : Cause) (hl : (id, t, due, c) ∈ s.log) (hc : c ≠ .flush) : due ≤ t :=
  (reach_inv hpre hr).early (id, t, due, c) hl hc

/-- **Attempted once due.** If a timetable entry is due: when the scheduler loop is not in the middle
    of a turn it can take one (its timer has run out, or it has been woken, or it is not asleep), and
    that turn creates the `_dequeue` task of the message; when it is in the middle of a turn (its
    spawns may be waiting for a slot of a bounded pool) it can finish the turn, does not go to sleep
    (the entry is due by the clock it reads then) and is back in the first case with the entry still
    in the timetable. -/
theorem due_is_dispatched {pre : List (Nat × Nat)} (hpre : (pre.map (·.1)).Nodup) {s : State} (hr : Reach (start pre) s)
    (t id : Nat) (he : (t, id) ∈ s.queued) (hdue : t ≤ s.now) :
    (s.turn = false → ∃ s', step s .sched = some s' ∧ (id, Cause.sched) ∈ s'.deq) ∧
    (s.turn = true → ∃ s', step s .sleep = some s' ∧ s'.turn = false ∧ s'.asleep = none ∧ (t, id) ∈ s'.queued ∧ s'.now = s.now) := by
  have h := reach_inv hpre hr
  constructor
  · intro hturn
    have hen : schedEnabled s = true := by
      unfold schedEnabled
      rcases h.wakes he with ha | hw | hw | ⟨u, ha, hu⟩
      · simp [ha]
      · split <;> simp [hw]
      · split <;> simp [hw]
      · simp [ha, Nat.le_trans hu hdue]
    refine ⟨schedCut s, by simp [step, hturn, hen], ?_⟩
    have hmem := due_mem_takeWhile h.sorted he hdue
    simp only [schedCut]
    split
    · rename_i hemp; simp [List.isEmpty_iff.mp hemp] at hmem
    · exact List.mem_append_right _ (List.mem_map_of_mem hmem)
  · intro hturn
    refine ⟨schedSleep s, by simp [step, hturn], ?_⟩
    unfold schedSleep
    split
    · rename_i hh; simp [List.head?_eq_none_iff.mp hh] at he
    · rename_i x hh
      rw [if_neg (Nat.not_lt.mpr (Nat.le_trans (head_le_of_sorted h.sorted hh he) hdue))]
      exact ⟨rfl, rfl, he, rfl⟩

/-- Where a stored message the queue has been told about is. -/
inductive Whereabouts (s : State) (id : Nat) : Prop
  | handingOff : id ∈ s.written → Whereabouts s id                  -- enqueue is about to hand it to the relay
  | attempting : id ∈ s.inflight → Whereabouts s id                 -- the relay has it
  | finishing : (id ∈ s.retry ∨ id ∈ s.retrying ∨ id ∈ s.rem) → Whereabouts s id   -- _retry_later / _remove_stored is due to run or running
  | dequeuing : id ∈ dIds s → Whereabouts s id                      -- a _dequeue task is pending
  | scheduled (t : Nat) : (t, id) ∈ s.queued →
      (s.asleep = none ∨ s.wake = true ∨ s.poked = true ∨ ∃ u, s.asleep = some (some u) ∧ u ≤ t) → Whereabouts s id
                                                                    -- in the timetable, and the loop is awake, has been woken, or wakes by then

/-- **Never forgotten.** In every reachable state each stored message the queue knows about
    (enqueued here, loaded, announced, re-queued after a failure or a flush) is in flight, has a
    pending task, or sits in the timetable with the scheduler due to wake no later than its time. -/
theorem never_forgotten {pre : List (Nat × Nat)} (hpre : (pre.map (·.1)).Nodup) {s : State} (hr : Reach (start pre) s)
    (id : Nat) (hk : id ∈ s.known) (hs : id ∈ sIds s) : Whereabouts s id := by
  have h := reach_inv hpre hr
  rcases h.tracked id hk hs with t | t | t | t | t
  · cases t
  · exact .handingOff t
  · exact ((h.act id).mp t).elim .attempting .finishing
  · exact .dequeuing t
  · obtain ⟨u, he⟩ := mem_qIds.mp t
    exact .scheduled u he (h.wakes he)

/-- **flush() never waits**: it is a single step that is always enabled, and after it every
    message that was waiting has a `_dequeue` task of its own; the timetable and its id set are empty
    (so a flushed message that fails again is let back in: `never_forgotten`). -/
theorem flush_returns_and_dispatches (s : State) :
    ∃ s', step s .flush = some s' ∧ s'.queued = [] ∧ s'.queuedIds = [] ∧
      ∀ e ∈ s.queued, (e.2, Cause.flush) ∈ s'.deq := by
  refine ⟨_, rfl, rfl, rfl, ?_⟩
  intro e he
  exact List.mem_append_right _ (List.mem_map_of_mem he)

/-- The timetable's id set is exactly the ids of its entries, in every reachable state. -/
theorem timetable_ids_exact {pre : List (Nat × Nat)} (hpre : (pre.map (·.1)).Nodup) {s : State} (hr : Reach (start pre) s)
    (id : Nat) : id ∈ s.queuedIds ↔ ∃ t, (t, id) ∈ s.queued :=
  (reach_inv hpre hr).qids id |>.trans mem_qIds

/-- At most one attempt of a message is in flight, and a message in flight has neither a timetable
    entry nor a pending `_dequeue` task. -/
theorem one_attempt_in_flight {pre : List (Nat × Nat)} (hpre : (pre.map (·.1)).Nodup) {s : State} (hr : Reach (start pre) s) :
    s.inflight.Nodup ∧ ∀ id ∈ s.inflight, (∀ t, (t, id) ∉ s.queued) ∧ id ∉ dIds s := by
  have h := reach_inv hpre hr
  refine ⟨h.oneFlight, fun id hid => ?_⟩
  have ha : id ∈ s.active := (h.act id).mpr (Or.inl hid)
  exact ⟨fun t ht => (h.actFree id ha).1 (mem_qIds.mpr ⟨t, ht⟩), (h.actFree id ha).2⟩

/-- **Without `calm` the property is false of the model** (and of the code: known finding of C12): the storage
    announces message 1 while `enqueue` is still between the write and the hand-off; the message is
    attempted through the timetable, fails, is re-scheduled for time 5 — and then `enqueue` hands it to the relay
    at time 0. -/
theorem never_early_needs_calm :
    ∃ s, run {} [.write 1 0, .announce 1 0, .sched, .dequeue 1 .sched, .done 1 false, .retry 1 (some 5), .requeue 1, .activate 1] = some s ∧
      (1, 0, 5, Cause.enqueue) ∈ s.log := by
  refine ⟨_, rfl, ?_⟩
  decide

/-! Non-vacuity: a calm run with a retry, a flush and a second failure. -/
def demoTrace : List Label := [.sched, .sleep, .write 1 0, .activate 1, .done 1 false, .retry 1 (some 5), .requeue 1, .sched, .sleep,
    .flush, .dequeue 1 .flush, .done 1 false, .retry 1 (some 7), .requeue 1, .tick 7, .sched, .sleep]

def noAnnounce : Label → Bool
  | .announce _ _ => false
  | _ => true

/-- A run of the executable model without announcements is a calm run. -/
theorem reach_run (s0 : State) (ls : List Label) (s1 : State) (hr : Reach s0 s1) (s2 : State) (h : run s1 ls = some s2)
    (hc : ls.all noAnnounce = true) : Reach s0 s2 := by
  induction ls generalizing s1 with
  | nil => cases h; exact hr
  | cons l ls ih =>
    obtain ⟨hl, hc⟩ := Bool.and_eq_true_iff.mp (List.all_cons ▸ hc)
    unfold run at h
    split at h
    · rename_i s' hs
      refine ih s' (.step hr ?_ hs) h hc
      cases l with
      | announce => cases hl
      | _ => trivial
    · cases h

example : ∃ s, run (start []) demoTrace = some s ∧ Reach (start []) s ∧ s.log.length = 2 ∧ s.turn = false :=
  ⟨_, rfl, reach_run _ demoTrace _ .init _ rfl rfl, rfl, rfl⟩

/-- A message the storage holds when the queue starts (`load()`): its announcement is a calm step, after which it is known,
    stored and in the timetable with the wake event set. -/
theorem start_announce {pre : List (Nat × Nat)} {id ts : Nat} (hmem : (id, ts) ∈ pre) :
    ∃ s, step (start pre) (.announce id ts) = some s ∧ Reach (start pre) s ∧ id ∈ s.known ∧ id ∈ sIds s ∧ Whereabouts s id := by
  have hstep : step (start pre) (.announce id ts) =
      some { start pre with known := [id], queued := [(ts, id)], queuedIds := [id], wake := true } := by
    simp [step, start, hmem, addQueued, insort]
  exact ⟨_, hstep, .step .init (by simp [calm, start, dIds]) hstep, .head _, List.mem_map_of_mem hmem,
    .scheduled ts (.head _) (.inr (.inl rfl))⟩

end Slimta.C12
