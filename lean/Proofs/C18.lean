import Proofs.Lemmas.Proxy
/-!
# C18 — PROXY protocol headers are parsed exactly and never over-read

Model: `Model/Proxy.lean` (`slimta/util/proxyproto.py`). A socket is any byte stream plus any pattern of short reads of
`recv_into`. v1: the line reader stops at the first CRLF it can see, which for a well-formed line is its end. v2: outcome and
unread bytes are a function of the byte stream (`specV2`), from which exactness and the bound follow.
-/
namespace Slimta.C18
open Slimta.Proxy

/-- A v1 header line as the reader needs it: `PROXY ` + a non-empty body without LF + CRLF, at most
    107 bytes (every line of the PROXY v1 grammar has this shape). -/
structure LineV1 (l body : Bytes) : Prop where
  eq : l = proxyPrefix ++ body ++ CRLF
  noLF : ∀ b ∈ body, b ≠ 10
  nonempty : body ≠ []
  len : l.length ≤ 107

theorem endsCRLF_append_crlf (x : Bytes) : endsCRLF (x ++ CRLF) = true := by
  simp [endsCRLF, endsWith, List.isSuffixOf_iff_suffix]

/-- No prefix longer than 8 bytes of such a line ends in CRLF, except the line itself. -/
theorem LineV1.noEarly {l body : Bytes} (w : LineV1 l body) (pre suf : Bytes) (h : l = pre ++ suf)
    (hp : 8 < pre.length) (hs : suf ≠ []) : endsCRLF pre = false := by
  cases hc : endsCRLF pre with
  | false => rfl
  | true =>
    exfalso
    obtain ⟨t, rfl⟩ := endsWith_crlf.mp hc
    -- the LF that ends `pre` is not the last byte of the line, so it lies in `PROXY ` or the body
    obtain ⟨suf', x, rfl⟩ := (List.eq_nil_or_concat suf).resolve_left hs
    have e : (proxyPrefix ++ body ++ [13]) ++ [10] = (t ++ [13, 10] ++ suf') ++ [x] := by
      simpa [CRLF, w.eq] using h
    have hm : (10 : Byte) ∈ proxyPrefix ++ body ++ [13] := by
      rw [List.append_inj_left' e rfl]; simp
    simp [proxyPrefix] at hm
    exact w.noLF 10 hm rfl

/-- **v1: exact parse, exact consumption.** A well-formed line followed by any payload, under any
    short-read pattern: the outcome is the parse of exactly that line and the payload is left
    unread. -/
theorem v1_exact (ipo : IpOracle) (l body : Bytes) (w : LineV1 l body) (payload : Bytes) (short : List Nat) :
    ∃ sh, processV1 ipo [] ⟨l ++ payload, short⟩ =
      ((match parseV1 ipo l with | some (src, _) => Outcome.proceed src | none => .proceed .none),
        ⟨payload, sh⟩) := by
  have hl9 : 9 ≤ l.length := by
    have hb := List.length_pos_iff.mpr w.nonempty
    have := congrArg List.length w.eq
    simp [proxyPrefix, CRLF] at this; omega
  obtain ⟨sh1, h1⟩ := readN_enough (target := 8) (read := []) (s := ⟨l ++ payload, short⟩)
    (by simp; omega)
  simp only [List.length_nil, Nat.sub_zero, List.nil_append] at h1
  rw [List.take_append_of_le_length (by omega), List.drop_append_of_le_length (by omega)] at h1
  obtain ⟨sh2, h2⟩ := readLineLoop_exact l payload
    (by rw [w.eq]; exact endsCRLF_append_crlf _) w.len (l.take 8) ⟨l.drop 8 ++ payload, sh1⟩ (l.drop 8)
    (by simp) (by intro h; have := congrArg List.length h; simp at this; omega) rfl
    (fun pre suf h hp hs => w.noEarly pre suf h (by simp at hp; omega) hs)
  refine ⟨sh2, ?_⟩
  simp only [processV1, readV1Line, h1, h2]
  cases parseV1 ipo l with
  | none => rfl
  | some p => rfl

/-- **v1: bounded consumption.** Whatever arrives, at most 107 bytes are taken from the stream. -/
theorem v1_bounded (ipo : IpOracle) (s : Sock) :
    s.stream.length - (processV1 ipo [] s).2.stream.length ≤ 107 ∧
    ∃ got, s.stream = got ++ (processV1 ipo [] s).2.stream := by
  unfold processV1 readV1Line
  cases h1 : readN 8 [] s with
  | none =>
    have := readN_none h1
    simp at this ⊢; omega
  | some p =>
    obtain ⟨r1, s1⟩ := p
    obtain ⟨g1, hr1, hs1, hl1⟩ := readN_some h1
    simp at hr1 hl1
    subst hr1
    simp only
    cases h2 : readLineLoop r1 s1 with
    | none =>
      have hn := readLineLoop_none _ _ h2
      simp only
      refine ⟨?_, s.stream, by simp⟩
      rw [hs1]; simp; omega
    | some q =>
      obtain ⟨r2, s2⟩ := q
      obtain ⟨hb, g2, rfl, hs2⟩ := readLineLoop_bound _ _ _ _ (by omega) h2
      simp only
      have key : s.stream.length - s2.stream.length ≤ 107 ∧ ∃ got, s.stream = got ++ s2.stream := by
        refine ⟨?_, r1 ++ g2, by rw [hs1, hs2]; simp⟩
        rw [hs1, hs2]
        simp at hb ⊢
        omega
      cases parseV1 ipo (r1 ++ g2) <;> exact key

/-- What a v2 header with command nibble `cmd`, family/protocol byte `fp` and address block `ad`
    (including any TLV tail) stands for. -/
def decodeV2 (ntop6 : Bytes → Bytes) (cmd fp : Byte) (ad : Bytes) : Outcome :=
  let fam := fp &&& 0xf0
  let res : Option Addr :=
    if fam == 0x10 then
      if ad.length < 12 then none
      else some (.ip (dotted (ad.take 4)) (be16 (ad.getD 8 0) (ad.getD 9 0)))
    else if fam == 0x20 then
      if ad.length < 36 then none
      else some (.ip (ntop6 (ad.take 16)) (be16 (ad.getD 32 0) (ad.getD 33 0)))
    else if fam == 0x30 then
      if ad.length < 216 then none
      else some (.unix (rstripNul (ad.take 108)))
    else some .none
  match res with
  | none => .proceed .none
  | some a => if cmd == 0 then .drop else .proceed a

/-- The v2 parser as a function of the byte stream alone. -/
def specV2 (ntop6 : Bytes → Bytes) (all : Bytes) : Outcome × Bytes :=
  let vc := all.getD 12 0
  let alen := be16 (all.getD 14 0) (all.getD 15 0)
  if all.length < 16 then (.proceed .none, [])
  else if all.take 12 != sigV2 || vc &&& 0xf0 != 0x20 || (vc &&& 0x0f != 0 && vc &&& 0x0f != 1) then
    (.proceed .none, all.drop 16)
  else if all.length < 16 + alen then (.proceed .none, [])
  else (decodeV2 ntop6 (vc &&& 0x0f) (all.getD 13 0) ((all.drop 16).take alen), (all.drop 16).drop alen)

theorem getD_append_left {l x : Bytes} {i : Nat} (h : i < l.length) : (l ++ x).getD i 0 = l.getD i 0 := by
  simp [List.getElem?_append_left h]

/-- **v2: the result does not depend on how `recv_into` cuts the stream** (nor on how many bytes
    the version detector had already peeked): outcome and unread bytes are a function of the byte
    stream. -/
theorem v2_short_read_independent (ntop6 : Bytes → Bytes) (init : Bytes) (s : Sock)
    (hinit : init.length ≤ 16) :
    ((processV2 ntop6 init s).1, (processV2 ntop6 init s).2.stream) = specV2 ntop6 (init ++ s.stream) := by
  unfold processV2 specV2
  cases h1 : readN 16 init s with
  | none =>
    have := readN_none h1
    rw [if_pos (by simp; omega)]
  | some p =>
    obtain ⟨hdr, s1⟩ := p
    obtain ⟨g1, rfl, hs1, hl1⟩ := readN_some h1
    have hlen : (init ++ g1).length = 16 := by simp; omega
    rw [hs1, ← List.append_assoc]
    generalize init ++ g1 = hdr at hlen ⊢
    rw [if_neg (by simp; omega), List.take_append_of_le_length (by omega), List.drop_left' hlen,
      getD_append_left (by omega), getD_append_left (by omega), getD_append_left (by omega),
      getD_append_left (by omega)]
    dsimp only
    -- `split` on a goal of this size is an order of magnitude dearer than the explicit case distinction
    by_cases c1 : (hdr.take 12 != sigV2) = true
    · rw [if_pos c1, if_pos (by simp only [c1, Bool.true_or])]
    by_cases c2 : (hdr.getD 12 0 &&& 0xf0 != 0x20) = true
    · rw [if_neg c1, if_pos c2, if_pos (by simp only [c2, Bool.true_or, Bool.or_true])]
    by_cases c3 : (hdr.getD 12 0 &&& 0x0f != 0 && hdr.getD 12 0 &&& 0x0f != 1) = true
    · rw [if_neg c1, if_neg c2, if_pos c3, if_pos (by simp only [c3, Bool.or_true])]
    rw [if_neg c1, if_neg c2, if_neg c3, if_neg (by simp only [c1, c2, c3, Bool.or_self]; decide)]
    cases h2 : readN (be16 (hdr.getD 14 0) (hdr.getD 15 0)) [] s1 with
    | none =>
      have := readN_none h2
      rw [if_pos (by simp at this ⊢; omega)]
    | some q =>
      obtain ⟨ad, s2⟩ := q
      obtain ⟨g2, rfl, hs2, hl2⟩ := readN_some h2
      simp only [List.length_nil, Nat.sub_zero] at hl2
      rw [hs2, if_neg (by simp only [List.length_append]; omega), List.take_left' hl2, List.drop_left' hl2]
      unfold decodeV2
      dsimp only
      -- both sides decode the address block by the same expression
      generalize (if hdr.getD 13 0 &&& 0xf0 == 0x10 then _ else _ : Option Addr) = res
      cases res with
      | none => rfl
      | some a => dsimp only; split <;> rfl

theorem specV2_rest (ntop6 : Bytes → Bytes) (all : Bytes) :
    ∃ k, k ≤ 16 + be16 (all.getD 14 0) (all.getD 15 0) ∧ (specV2 ntop6 all).2 = all.drop k := by
  unfold specV2
  dsimp only
  split
  · exact ⟨16, by omega, (List.drop_of_length_le (by omega)).symm⟩
  split
  · exact ⟨16, by omega, rfl⟩
  split
  · exact ⟨_, Nat.le_refl _, (List.drop_of_length_le (by omega)).symm⟩
  · exact ⟨_, Nat.le_refl _, List.drop_drop⟩

/-- **v2: exact parse, exact consumption.** Signature, version 2, command LOCAL or PROXY, a
    declared length and exactly that many bytes of address block (with TLVs), then any payload,
    under any short-read pattern: 16 + length bytes are consumed, the payload is left unread, and the
    outcome is `decodeV2`'s: LOCAL drops the connection, PROXY yields the encoded source address; a
    block too short for its family gives the invalid address under either command. -/
theorem v2_exact (ntop6 : Bytes → Bytes) (vc fp hi lo : Byte) (ad payload : Bytes) (short : List Nat)
    (hver : vc &&& 0xf0 = 0x20) (hcmd : vc &&& 0x0f = 0 ∨ vc &&& 0x0f = 1)
    (hlen : ad.length = be16 hi lo) :
    ∃ sh, processV2 ntop6 [] ⟨sigV2 ++ [vc, fp, hi, lo] ++ ad ++ payload, short⟩ =
      (decodeV2 ntop6 (vc &&& 0x0f) fp ad, ⟨payload, sh⟩) := by
  have h := v2_short_read_independent ntop6 [] ⟨sigV2 ++ [vc, fp, hi, lo] ++ ad ++ payload, short⟩ (by simp)
  have hc2 : (vc &&& 0x0f != 0 && vc &&& 0x0f != 1) = false := by
    rcases hcmd with h | h <;> simp [h]
  have hs : specV2 ntop6 (sigV2 ++ [vc, fp, hi, lo] ++ ad ++ payload) =
      (decodeV2 ntop6 (vc &&& 0x0f) fp ad, payload) := by
    simp +arith [specV2, sigV2, hver, hc2, ← hlen]
  rw [List.nil_append, hs] at h
  generalize processV2 ntop6 [] _ = p at h ⊢
  obtain ⟨o, st, sh⟩ := p
  obtain ⟨rfl, rfl⟩ := h
  exact ⟨sh, rfl⟩

/-- **v2: bounded consumption.** Whatever arrives, at most 16 bytes plus the declared length are
    taken from the stream (all of it only when it ends before that). -/
theorem v2_bounded (ntop6 : Bytes → Bytes) (s : Sock) :
    s.stream.length - (processV2 ntop6 [] s).2.stream.length
        ≤ 16 + be16 (s.stream.getD 14 0) (s.stream.getD 15 0) ∧
    ∃ got, s.stream = got ++ (processV2 ntop6 [] s).2.stream := by
  obtain ⟨k, hk, hr⟩ := specV2_rest ntop6 s.stream
  have := congrArg Prod.snd (v2_short_read_independent ntop6 [] s (by simp))
  simp only [List.nil_append] at this
  rw [this, hr]
  exact ⟨by rw [List.length_drop]; omega, s.stream.take k, (List.take_append_drop k _).symm⟩

/-- **Version auto-detection, v1.** When the first 8 bytes begin with `PROXY ` the dispatcher
    behaves exactly like the v1 handler on the same socket. -/
theorem autodetect_v1 (ipo : IpOracle) (ntop6 : Bytes → Bytes) (s : Sock) (i8 : Bytes) (s1 : Sock)
    (hread : readN 8 [] s = some (i8, s1)) (hpre : proxyPrefix.isPrefixOf i8 = true) :
    handle ipo ntop6 s = handleV1 ipo s := by
  obtain ⟨g, hg, hs, hl⟩ := readN_some hread
  simp at hg hl
  subst hg
  have h8 : readN 8 i8 s1 = some (i8, s1) := by
    rw [readN]; simp [hl]
  simp only [handle, handleV1, hread, hpre, if_true, processV1, readV1Line, h8]

/-- **Version auto-detection, v2.** When the first 8 bytes are the start of the v2 signature the
    dispatcher gives the outcome and leaves the bytes that the v2 handler would. -/
theorem autodetect_v2 (ipo : IpOracle) (ntop6 : Bytes → Bytes) (s : Sock) (i8 : Bytes) (s1 : Sock)
    (hread : readN 8 [] s = some (i8, s1)) (hsig : i8 = sigV2.take 8) :
    (handle ipo ntop6 s).1 = (handleV2 ntop6 s).1 ∧
    (handle ipo ntop6 s).2.stream = (handleV2 ntop6 s).2.stream := by
  obtain ⟨g, hg, hs, hl⟩ := readN_some hread
  simp at hg hl
  subst hg
  subst hsig
  have hnp : proxyPrefix.isPrefixOf (sigV2.take 8) = false := by decide
  have hh : handle ipo ntop6 s = processV2 ntop6 (sigV2.take 8) s1 := by
    simp only [handle, hread, hnp]
    simp
  have e1 := v2_short_read_independent ntop6 (sigV2.take 8) s1 (by decide)
  have e2 := v2_short_read_independent ntop6 [] s (by simp)
  rw [← hs] at e1
  simp only [List.nil_append] at e2
  rw [hh, handleV2]
  have := e1.trans e2.symm
  simp only [Prod.mk.injEq] at this
  exact this

/-- **Neither signature**: the connection proceeds with the invalid address and only the 8
    peeked bytes are consumed. -/
theorem autodetect_neither (ipo : IpOracle) (ntop6 : Bytes → Bytes) (s : Sock) (i8 : Bytes) (s1 : Sock)
    (hread : readN 8 [] s = some (i8, s1)) (hpre : proxyPrefix.isPrefixOf i8 = false)
    (hsig : i8 ≠ sigV2.take 8) :
    handle ipo ntop6 s = (.proceed .none, s1) := by
  simp [handle, hread, hpre, hsig]

def kw : Family → Bytes
  | .inet => kwTCP4
  | .inet6 => kwTCP6

theorem body_of_line (body : Bytes) :
    ((proxyPrefix ++ body ++ CRLF).drop 6).take ((proxyPrefix ++ body ++ CRLF).length - 8) = body := by
  simp [proxyPrefix, CRLF]

theorem line_guard (body : Bytes) :
    (proxyPrefix.isPrefixOf (proxyPrefix ++ body ++ CRLF) && endsCRLF (proxyPrefix ++ body ++ CRLF)) = true := by
  rw [endsCRLF_append_crlf]
  simp [List.isPrefixOf_iff_prefix, List.append_assoc]

/-- **v1 completeness: the encoded addresses are returned.** A `TCP4`/`TCP6` line whose four
    fields contain no space parses to exactly the addresses the resolver gives for the two IP
    texts and the decimal values of the two port fields (and is refused if any of them is not
    acceptable). -/
theorem parse_tcp (ipo : IpOracle) (fam : Family) (a1 a2 p1 p2 : Bytes)
    (h1 : ∀ b ∈ a1, b ≠ 32) (h2 : ∀ b ∈ a2, b ≠ 32) (h3 : ∀ b ∈ p1, b ≠ 32) (h4 : ∀ b ∈ p2, b ≠ 32) :
    parseV1 ipo (proxyPrefix ++ (kw fam ++ 32 :: (a1 ++ 32 :: (a2 ++ 32 :: (p1 ++ 32 :: p2)))) ++ CRLF) =
      match ipo fam a1, parsePort p1, ipo fam a2, parsePort p2 with
      | some s, some sp, some d, some dp => some (.ip s sp, .ip d dp)
      | _, _, _, _ => none := by
  have hk : ∀ b ∈ kw fam, b ≠ 32 := by cases fam <;> simp [kw, kwTCP4, kwTCP6]
  rw [parseV1, if_pos (line_guard _), body_of_line]
  dsimp only
  rw [splitSP_field _ _ hk, splitSP_field _ _ h1, splitSP_field _ _ h2, splitSP_field _ _ h3,
    splitSP_noSP _ h4]
  -- the three keywords are told apart by evaluation
  cases fam <;> rfl

/-- `UNKNOWN` lines (with anything after the keyword) give the unknown address. -/
theorem parse_unknown (ipo : IpOracle) (rest : Bytes) :
    parseV1 ipo (proxyPrefix ++ (kwUNKNOWN ++ 32 :: rest) ++ CRLF) = some (.none, .none) ∧
    parseV1 ipo (proxyPrefix ++ kwUNKNOWN ++ CRLF) = some (.none, .none) := by
  have hk : ∀ b ∈ kwUNKNOWN, b ≠ 32 := by simp [kwUNKNOWN]
  constructor
  · rw [parseV1, if_pos (line_guard _), body_of_line]; simp [splitSP_field _ _ hk]
  · rw [parseV1, if_pos (line_guard _), body_of_line]; simp [splitSP_noSP _ hk]

/-- **v1 soundness: nothing malformed is accepted.** If the parser returns an IP source address
    then the line starts with `PROXY `, ends in CRLF, and its body is exactly five fields separated
    by single spaces: a family keyword, two addresses the resolver accepts for that family, and two
    ports made of ASCII digits only with value at most 65535. -/
theorem parse_sound (ipo : IpOracle) (line : Bytes) (s : Bytes) (sp : Nat) (d : Addr)
    (h : parseV1 ipo line = some (.ip s sp, d)) :
    proxyPrefix.isPrefixOf line = true ∧ endsCRLF line = true ∧
    ∃ fam a1 a2 p1 p2 ds dp,
      (line.drop 6).take (line.length - 8) = kw fam ++ 32 :: (a1 ++ 32 :: (a2 ++ 32 :: (p1 ++ 32 :: p2))) ∧
      d = .ip ds dp ∧ ipo fam a1 = some s ∧ ipo fam a2 = some ds ∧
      (p1 ≠ [] ∧ p1.all isDigit = true ∧ sp = decVal p1 ∧ sp ≤ 65535) ∧
      (p2 ≠ [] ∧ p2.all isDigit = true ∧ dp = decVal p2 ∧ dp ≤ 65535) := by
  have hj := joinSP_splitSP ((line.drop 6).take (line.length - 8))
  unfold parseV1 at h
  -- every branch but one returns `none` or the unknown address
  split at h
  case isFalse => cases h
  rename_i hc
  rw [Bool.and_eq_true] at hc
  refine ⟨hc.1, hc.2, ?_⟩
  dsimp only at h
  split at h
  case h_1 => cases h
  rename_i p0 ps hsplit
  split at h
  case isTrue => cases h
  split at h
  case h_2 => cases h
  rename_i fam a1 a2 p1 p2 hfam
  split at h
  case h_2 => cases h
  rename_i s' sp' d' dp' e1 e2 e3 e4
  cases h
  have hp0 : p0 = kw fam := by
    by_cases h4 : (p0 == kwTCP4) = true
    · rw [if_pos h4] at hfam; cases hfam; exact eq_of_beq h4
    · rw [if_neg h4] at hfam
      by_cases h6 : (p0 == kwTCP6) = true
      · rw [if_pos h6] at hfam; cases hfam; exact eq_of_beq h6
      · rw [if_neg h6] at hfam; cases hfam
  refine ⟨fam, a1, a2, p1, p2, d', dp', ?_, rfl, e1, e3, parsePort_some e2, parsePort_some e4⟩
  rw [← hj, hsplit, hp0]
  rfl

/-! ### non-vacuity -/

example : LineV1 (proxyPrefix ++ (kwTCP4 ++ 32 :: ([49, 46, 50, 46, 51, 46, 52] ++ 32 ::
    ([53, 46, 54, 46, 55, 46, 56] ++ 32 :: ([50, 53] ++ 32 :: [53, 56, 55])))) ++ CRLF)
    (kwTCP4 ++ 32 :: ([49, 46, 50, 46, 51, 46, 52] ++ 32 :: ([53, 46, 54, 46, 55, 46, 56] ++ 32 :: ([50, 53] ++ 32 :: [53, 56, 55])))) :=
  ⟨rfl, by decide, by decide, by decide⟩

example : parsePort [50, 53] = some 25 ∧ parsePort [43, 50, 53] = none ∧ parsePort [54, 53, 53, 51, 54] = none := by
  decide

example : decodeV2 (fun _ => []) 1 0x11 [1, 2, 3, 4, 5, 6, 7, 8, 0, 25, 2, 75]
    = .proceed (.ip [49, 46, 50, 46, 51, 46, 52] 25) := by decide

example : decodeV2 (fun _ => []) 0 0x11 [1, 2, 3, 4, 5, 6, 7, 8, 0, 25, 2, 75] = .drop := by decide

end Slimta.C18
