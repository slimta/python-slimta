import Model.Relay
import Model.Mx
import Model.RelaySession
import Proofs.Lemmas.List
/-!
# C11 — a relay reports success only for recipients the next hop accepted

Over `Model/Relay.lean`: one delivery attempt of the SMTP/LMTP relay client against *every* downstream script (`Outcome`: what
`_deliver` may return), and the result classification of the pipe and HTTP relays. "Always a result or a relay error" is built
into the result type (`Result`), the theorems show that the success class never appears where it must not. Then MX routing and
the MX cache (`Model/Mx.lean`), and that the result model agrees with the command model of `Model/RelaySession.lean` on when
the message data was sent.
-/
namespace Slimta.C11
open Slimta.Relay

/-- The class reported for recipient `i`. -/
def clsOf : Result → Nat → Option Cls
  | .table l, i => l[i]?
  | .raised c, _ => some c

/-- The classes of the recipients whose RCPT replies were `rc`, when those accepted at RCPT time end with `e`: every table an
    SMTP delivery returns is one of these (`deliver_outcome`), `e = .ok` being the delivery that went through. -/
def fill (rc : List Nat) (e : Cls) : List Cls := rc.map fun c => if isError c then factory c else e

theorem factory_not_ok (c : Nat) : factory c ≠ .ok := by
  simp only [factory]; split <;> simp

theorem fill_ok {rc : List Nat} {e : Cls} {i : Nat} (h : (fill rc e)[i]? = some .ok) :
    e = .ok ∧ ∃ c, rc[i]? = some c ∧ isError c = false := by
  obtain ⟨c, hc, h⟩ := Option.map_eq_some_iff.mp (List.getElem?_map ▸ h)
  by_cases he : isError c = true
  · rw [if_pos he] at h; exact absurd h (factory_not_ok c)
  · rw [if_neg he] at h; exact ⟨h, c, hc, by simpa using he⟩

theorem fill_refused {rc : List Nat} {i c : Nat} (hc : rc[i]? = some c) (he : isError c = true) (e : Cls) :
    (fill rc e)[i]? = some (factory c) := by
  simp [fill, hc, he]

theorem mem_fill {rc : List Nat} (h : ∃ x ∈ rc, isError x = false) (e : Cls) : e ∈ fill rc e := by
  obtain ⟨x, hx, hxe⟩ := h
  exact List.mem_map.mpr ⟨x, hx, by simp [hxe]⟩

theorem ownClasses_getD (rc : List Nat) (e : Cls) : ((ownClasses rc).map fun o => o.getD e) = fill rc e := by
  simp only [ownClasses, fill, List.map_map]
  congr 1; funext c; simp only [Function.comp]; split <;> rfl

theorem ownClasses_not_ok (rcpts : List Nat) : ∀ o ∈ ownClasses rcpts, o ≠ some .ok := by
  intro o ho
  simp only [ownClasses, List.mem_map] at ho
  obtain ⟨c, _, rfl⟩ := ho
  split
  · simp [factory_not_ok]
  · simp

theorem fail_cases (own : List (Option Cls)) (e : Cls) :
    fail own e = .raised e ∨ fail own e = .table (own.map fun o => o.getD e) := by
  simp only [fail]; split <;> simp

/-- **A whole-message failure keeps every recipient's own class** whenever the failure's class is itself among the classes the
    recipients end up with (`hmem`): somebody had no reply of his own and gets the failure's, or the failure IS a recipient's reply.
    Every failure after an accepted MAIL is such (`checkReplies_cases`); a refused MAIL need not be (`fail_sender_refused_example`). -/
theorem fail_keeps_own (own : List (Option Cls)) (e : Cls) (i : Nat) (c : Cls) (h : own[i]? = some (some c))
    (hc : c ≠ .ok) (he : e ≠ .ok) (hmem : e ∈ own.map fun o => o.getD e) :
    clsOf (fail own e) i = some c := by
  have hci : (own.map fun o => o.getD e)[i]? = some c := by simp [h]
  have hcm := List.mem_of_getElem? hci
  unfold fail
  dsimp only
  split
  · -- everybody is of one kind, `e` and `c` among them, and neither is `ok`: both `perm`, or both `temp`
    rename_i hall
    have temp : ∀ {x : Cls}, x ≠ .ok → (x != .perm) = true → x = .temp := fun {x} => by cases x <;> simp
    simp only [Bool.or_eq_true, List.all_eq_true] at hall
    rcases hall with hk | hk
    · rw [eq_of_beq (hk c hcm), eq_of_beq (hk e hmem)]; rfl
    · rw [temp hc (hk c hcm), temp he (hk e hmem)]; rfl
  · exact hci

/-- `_fail` when the sender was refused: if every pipelined RCPT got the other kind of reply the sender's failure is raised for
    everybody; RCPT replies of both kinds each keep their own class. -/
theorem fail_sender_refused_example : fail [some .temp] .perm = .raised .perm ∧ fail [some .perm, some .perm] .temp = .raised .temp ∧
    fail [some .temp, some .perm] .perm = .table [.temp, .perm] := by decide

theorem fail_not_ok (own : List (Option Cls)) (e : Cls) (he : e ≠ .ok) (hown : ∀ o ∈ own, o ≠ some .ok) (i : Nat) :
    clsOf (fail own e) i ≠ some .ok := by
  rcases fail_cases own e with h | h <;> rw [h]
  · simpa [clsOf] using he
  · simp only [clsOf, List.getElem?_map]
    cases ho : own[i]? with
    | none => simp
    | some o =>
      have := hown o (List.mem_of_getElem? ho)
      cases o <;> simp_all

theorem fail_keeps_refused {rc : List Nat} {i c : Nat} (hc : rc[i]? = some c) (hce : isError c = true) {e : Cls} (he : e ≠ .ok)
    (hmem : e ∈ fill rc e) : clsOf (fail (ownClasses rc) e) i = some (factory c) :=
  fail_keeps_own _ e i _ (by simp [ownClasses, hc, hce]) (factory_not_ok c) he (by rwa [ownClasses_getD])

theorem readCode_some {o : Out} {c : Nat} (h : readCode o = some c) : o = .code c := by
  cases o <;> simp [readCode] at h
  subst h; rfl

theorem readCodes_some {outs : List Out} {cs : List Nat} (h : readCodes outs = some cs) :
    outs = cs.map Out.code := by
  induction outs generalizing cs with
  | nil => simp [readCodes] at h; subst h; rfl
  | cons o rest ih =>
    simp only [readCodes] at h
    split at h
    · rename_i c cs' h1 h2
      simp at h; subst h
      simp [readCode_some h1, ih h2]
    · simp at h

theorem readCodes_map_code (cs : List Nat) : readCodes (cs.map Out.code) = some cs := by
  induction cs with
  | nil => rfl
  | cons c rest ih => simp [readCodes, readCode, ih]

/-- The middle conjunct of the failure case is `fail_keeps_own`'s `hmem`: once MAIL was accepted the failure class is one somebody
    ends with — a refused recipient whose reply it is, or an accepted one. -/
theorem checkReplies_cases (mail : Nat) (rc : List Nat) (data : Nat) :
    (∃ e, e ≠ .ok ∧ (isError mail = false → rc ≠ [] → e ∈ fill rc e) ∧ checkReplies mail rc data = .inl (fail (ownClasses rc) e)) ∨
    (isError mail = false ∧ isError data = false ∧ (∃ x ∈ rc, isError x = false) ∧ checkReplies mail rc data = .inr (fill rc .ok)) := by
  unfold checkReplies
  by_cases hm : isError mail = true
  · exact .inl ⟨_, factory_not_ok _, fun h => by simp [hm] at h, if_pos hm⟩
  rw [if_neg hm]
  by_cases hall : rc.all isError = true
  · refine .inl ⟨_, factory_not_ok _, fun _ hne => ?_, if_pos hall⟩
    -- the failure is the first recipient's own reply
    cases rc with
    | nil => exact absurd rfl hne
    | cons c0 rest =>
      have h0 : isError c0 = true := by simp at hall; exact hall.1
      simp [fill, h0]
  rw [if_neg hall]
  have hacc : ∃ x ∈ rc, isError x = false := by simpa using hall
  by_cases hd : isError data = true
  · exact .inl ⟨_, factory_not_ok _, fun _ _ => mem_fill hacc _, if_pos hd⟩
  · exact .inr ⟨by simpa using hm, by simpa using hd, hacc, if_neg hd⟩

/-- **An accepted sender: a refused recipient keeps the class of its own reply** through any failure of the transaction (every
    recipient refused, DATA refused): 4xx stays "try again later", 5xx stays "failed for good". -/
theorem checkReplies_keeps_own {mail data : Nat} {rcpts : List Nat} {r : Result} (hm : isError mail = false)
    (h : checkReplies mail rcpts data = .inl r) (i : Nat) (c : Nat) (hc : rcpts[i]? = some c) (he : isError c = true) :
    clsOf r i = some (factory c) := by
  rcases checkReplies_cases mail rcpts data with ⟨e, hne, hmem, hcr⟩ | ⟨_, _, _, hcr⟩
  · obtain rfl : fail (ownClasses rcpts) e = r := by simpa [hcr] using h
    exact fail_keeps_refused hc he hne (hmem hm (by rintro rfl; simp at hc))
  · simp [hcr] at h

/-- What `_deliver` may return: it raises a failure class; or MAIL, every RCPT and DATA were answered and it returns a table — the
    `_fail` table of a failure class, or that of a transaction that went through to the end (LMTP: with the end-of-data replies
    dealt out to the accepted recipients). -/
inductive Outcome (cfg : Cfg) (s : Script) : Result → Prop
  | raised {c} : c ≠ .ok → Outcome cfg s (.raised c)
  | failed {rc e} : s.rcpts = rc.map .code → e ≠ .ok → Outcome cfg s (.table (fill rc e))
  | smtp {mail rc data e} : cfg.lmtp = false → s.mail = .code mail → s.rcpts = rc.map .code → s.data = .code data →
      s.eod = .code e → isError mail = false → isError data = false → isError e = false → Outcome cfg s (.table (fill rc .ok))
  | lmtp {mail rc data eods} : cfg.lmtp = true → s.mail = .code mail → s.rcpts = rc.map .code → s.data = .code data →
      s.eodPer.take ((fill rc .ok).filter (· == .ok)).length = eods.map .code → isError mail = false → isError data = false →
      Outcome cfg s (.table (mergeLmtp (fill rc .ok) eods))

theorem deliver_outcome (cfg : Cfg) (s : Script) : Outcome cfg s (deliver cfg s) := by
  have temp : Outcome cfg s (.raised .temp) := .raised (by decide)
  unfold deliver
  -- `by_cases`, not `split`: on a goal of this size `split` is dear
  by_cases hconv : ((!s.eightBit && cfg.body8bit && !cfg.hasEncoder) || (cfg.utf8Addr && !s.smtputf8)) = true
  · rw [if_pos hconv]; exact .raised (by decide)
  rw [if_neg hconv]
  cases hm : readCode s.mail with
  | none => exact temp
  | some mail =>
  dsimp only
  by_cases hp : (!s.pipelining && isError mail) = true
  · rw [if_pos hp]; exact .raised (factory_not_ok mail)
  rw [if_neg hp]
  cases hr : readCodes s.rcpts with
  | none => exact temp
  | some rc =>
  cases hd : readCode s.data with
  | none => exact temp
  | some data =>
  have hm := readCode_some hm; have hr := readCodes_some hr; have hd := readCode_some hd
  have hfail : ∀ {e}, e ≠ .ok → Outcome cfg s (fail (ownClasses rc) e) := fun {e} he => by
    rcases ownClasses_getD rc e ▸ fail_cases (ownClasses rc) e with h | h <;> rw [h]
    · exact .raised he
    · exact .failed hr he
  dsimp only
  rcases checkReplies_cases mail rc data with ⟨e, he, -, hcr⟩ | ⟨hme, hde, -, hcr⟩ <;> rw [hcr] <;> dsimp only
  · exact hfail he
  cases hl : cfg.lmtp <;> simp only [↓reduceIte, Bool.false_eq_true]
  · cases he : readCode s.eod with
    | none => exact temp
    | some e =>
      dsimp only
      split
      · exact hfail (factory_not_ok e)
      · exact .smtp hl hm hr hd (readCode_some he) hme hde (by simpa using ‹¬ isError e = true›)
  · cases he : readCodes (s.eodPer.take ((fill rc .ok).filter (· == .ok)).length) with
    | none => exact temp
    | some eods => exact .lmtp hl hm hr hd (readCodes_some he) hme hde

/-- **An accepted sender and a next hop that answers everything: a refused recipient ends with the class of its own reply**, whatever
    becomes of the rest of the transaction (every recipient refused, DATA refused, the message refused after the data, or the others
    delivered): RCPT 4xx is "try again later" for that recipient, RCPT 5xx is "failed for good" — SMTP, with and without PIPELINING,
    for a message that passes the 8BITMIME / SMTPUTF8 check made before MAIL (`hconv`). -/
theorem deliver_keeps_own_class (cfg : Cfg) (hl : cfg.lmtp = false) (s : Script) (mail data eod : Nat) (rc : List Nat)
    (hm : s.mail = .code mail) (hr : s.rcpts = rc.map .code) (hd : s.data = .code data) (he : s.eod = .code eod)
    (hconv : ((!s.eightBit && cfg.body8bit && !cfg.hasEncoder) || (cfg.utf8Addr && !s.smtputf8)) = false)
    (hmail : isError mail = false) (i : Nat) (c : Nat) (hc : rc[i]? = some c) (hce : isError c = true) :
    clsOf (deliver cfg s) i = some (factory c) := by
  simp only [deliver, hconv, Bool.false_eq_true, if_false, hm, readCode, hmail, Bool.and_false, hr, readCodes_map_code, hd, hl, he]
  rcases checkReplies_cases mail rc data with ⟨_, _, _, hcr⟩ | ⟨_, _, hacc, hcr⟩ <;> rw [hcr] <;> dsimp only
  · exact checkReplies_keeps_own hmail hcr i c hc hce
  · split
    · -- the message was refused after the data: `_fail` with somebody who had been accepted
      exact fail_keeps_refused hc hce (factory_not_ok _) (mem_fill hacc _)
    · exact fill_refused hc hce _

theorem mergeLmtp_getElem? (per : List Cls) (es : List Nat) (i : Nat) :
    (mergeLmtp per es)[i]? = per[i]?.map fun p => if p = .ok then (fill es .ok)[(per.take i).count .ok]?.getD .temp else p := by
  induction per generalizing es i with
  | nil => rfl
  | cons p ps ih =>
    cases i with
    | zero => cases p <;> cases es <;> rfl
    | succ i =>
      cases p <;> cases es <;>
        simp only [mergeLmtp, List.getElem?_cons_succ, List.take_succ_cons, List.count_cons, ih] <;> rfl

theorem mergeLmtp_ok {per : List Cls} {es : List Nat} {i : Nat} (h : (mergeLmtp per es)[i]? = some .ok) :
    per[i]? = some .ok ∧ ∃ e, es[(per.take i).count .ok]? = some e ∧ isError e = false := by
  rw [mergeLmtp_getElem?] at h
  obtain ⟨p, hp, h⟩ := Option.map_eq_some_iff.mp h
  split at h
  · subst p
    cases hk : (fill es .ok)[(per.take i).count .ok]? with
    | none => rw [hk] at h; cases h
    | some q =>
      rw [hk] at h
      obtain rfl : q = .ok := h
      exact ⟨hp, (fill_ok hk).2⟩
  · exact absurd h ‹_›

theorem mergeLmtp_length (per : List Cls) (es : List Nat) : (mergeLmtp per es).length = per.length := by
  fun_induction mergeLmtp per es <;> simp_all

theorem fill_accepted (rc : List Nat) :
    ((fill rc .ok).filter (· == .ok)).length = (rc.filter fun c => !isError c).length := by
  induction rc with
  | nil => rfl
  | cons x xs ih =>
    have := factory_not_ok x
    cases hx : isError x <;> simp_all [fill]

/-- **LMTP: the same** — a recipient refused at RCPT time keeps the class of that reply, whatever the per-recipient end-of-data
    replies of the others are (they are dealt out to the accepted recipients only). -/
theorem deliver_keeps_own_class_lmtp (cfg : Cfg) (hl : cfg.lmtp = true) (s : Script) (mail data : Nat) (rc eods : List Nat)
    (hm : s.mail = .code mail) (hr : s.rcpts = rc.map .code) (hd : s.data = .code data)
    (he : s.eodPer.take ((rc.filter fun c => !isError c).length) = eods.map .code)
    (hconv : ((!s.eightBit && cfg.body8bit && !cfg.hasEncoder) || (cfg.utf8Addr && !s.smtputf8)) = false)
    (hmail : isError mail = false) (i : Nat) (c : Nat) (hc : rc[i]? = some c) (hce : isError c = true) :
    clsOf (deliver cfg s) i = some (factory c) := by
  simp only [deliver, hconv, Bool.false_eq_true, if_false, hm, readCode, hmail, Bool.and_false, hr, readCodes_map_code, hd, hl]
  rcases checkReplies_cases mail rc data with ⟨_, _, _, hcr⟩ | ⟨_, _, _, hcr⟩ <;> rw [hcr] <;> dsimp only
  · exact checkReplies_keeps_own hmail hcr i c hc hce
  · simp [fill_accepted, he, readCodes_map_code, clsOf, mergeLmtp_getElem?, fill_refused hc hce, factory_not_ok]

theorem smtp_delivered (cfg : Cfg) (hl : cfg.lmtp = false) (s : Script) (i : Nat) (hi : clsOf (deliver cfg s) i = some .ok) :
    ∃ (mail : Nat) (rc : List Nat) (data eod c : Nat), s.mail = .code mail ∧ s.rcpts = rc.map .code ∧ s.data = .code data ∧ s.eod = .code eod ∧
      isError mail = false ∧ isError data = false ∧ isError eod = false ∧ rc[i]? = some c ∧ isError c = false := by
  have ho := deliver_outcome cfg s
  generalize deliver cfg s = r at ho hi
  cases ho with
  | raised hc => exact absurd (Option.some.inj hi) hc
  | failed _ he => exact absurd (fill_ok hi).1 he
  | lmtp h => simp [hl] at h
  | smtp _ hm hr hd he hme hde hee =>
    obtain ⟨_, c, hc, hce⟩ := fill_ok hi
    exact ⟨_, _, _, _, c, hm, hr, hd, he, hme, hde, hee, hc, hce⟩

/-- **LMTP: delivered only if accepted twice.** A recipient is reported delivered only if its RCPT
    got a non-error reply and so did the end-of-data reply that belongs to it: the `k`-th one,
    `k` = the number of recipients before it whose RCPT was accepted. -/
theorem lmtp_delivered_only_if_accepted (cfg : Cfg) (hl : cfg.lmtp = true) (s : Script) (i : Nat)
    (hi : clsOf (deliver cfg s) i = some .ok) :
    ∃ rcpts : List Nat, s.rcpts = rcpts.map Out.code ∧
      (∃ c, rcpts[i]? = some c ∧ isError c = false) ∧
      (∃ e, s.eodPer[((rcpts.take i).filter (fun c => !isError c)).length]? = some (.code e) ∧ isError e = false) ∧
      (∃ c, s.data = .code c ∧ isError c = false) ∧ (∃ c, s.mail = .code c ∧ isError c = false) := by
  have ho := deliver_outcome cfg s
  generalize deliver cfg s = r at ho hi
  cases ho with
  | raised hc => exact absurd (Option.some.inj hi) hc
  | failed _ he => exact absurd (fill_ok hi).1 he
  | smtp h => simp [hl] at h
  | @lmtp mail rc data eods _ hm hr hd he hme hde =>
    obtain ⟨hp, e, hk, hee⟩ := mergeLmtp_ok hi
    obtain ⟨_, c, hc, hce⟩ := fill_ok hp
    rw [fill, ← List.map_take, ← fill, List.count_eq_length_filter, fill_accepted] at hk
    refine ⟨rc, hr, ⟨c, hc, hce⟩, ⟨e, ?_, hee⟩, ⟨_, hd, hde⟩, ⟨_, hm, hme⟩⟩
    -- `eods` are the codes of a prefix of `s.eodPer`
    have := congrArg (·[((rc.take i).filter fun c => !isError c).length]?) he
    simp only [List.getElem?_take, List.getElem?_map, hk] at this
    split at this
    · exact this
    · cases this

/-- `o` is no result, or a failure of the whole message: what each stage of the handshake yields, `none` = go on. -/
inductive Aborts : Option Result → Prop
  | none : Aborts none
  | raised {c : Cls} : c ≠ .ok → Aborts (some (.raised c))

theorem Aborts.ite {c : Prop} [Decidable c] {x y : Option Result} (hx : Aborts x) (hy : Aborts y) : Aborts (if c then x else y) :=
  iteInduction (fun _ => hx) (fun _ => hy)

theorem Aborts.orElse {x y : Option Result} : Aborts x → Aborts y → Aborts (match x with | some r => some r | .none => y) := by
  intro hx hy
  cases hx with
  | none => exact hy
  | raised hc => exact .raised hc

theorem Aborts.mustSucceed (o : Out) : Aborts (mustSucceed o) := by
  unfold Relay.mustSucceed
  cases readCode o with
  | none => exact .raised (by decide)
  | some c => exact .ite (.raised (factory_not_ok c)) .none

theorem handshake_aborts (cfg : Cfg) (s : Script) : Aborts (handshake cfg s) := by
  unfold handshake
  apply Aborts.orElse (.mustSucceed _)
  apply Aborts.orElse
  · apply Aborts.ite (.mustSucceed _)
    cases readCode s.ehlo with
    | none => exact .raised (by decide)
    | some c =>
      apply Aborts.orElse
      · exact .ite (.ite (.mustSucceed _) (.raised (factory_not_ok c))) .none
      · apply Aborts.ite _ .none
        cases readCode s.starttls with
        | none => exact .raised (by decide)
        | some t => exact .ite (.raised (factory_not_ok t)) (.mustSucceed _)
  · exact .ite (.mustSucceed _) .none

theorem attempt_cases (cfg : Cfg) (s : Script) :
    (∃ c, c ≠ .ok ∧ attempt cfg s = .raised c) ∨ (s.connect = .ok ∧ handshake cfg s = none ∧ attempt cfg s = deliver cfg s) := by
  unfold attempt
  split
  · exact .inl ⟨.temp, by decide, rfl⟩
  · exact .inl ⟨.temp, by decide, rfl⟩
  · cases hh : handshake cfg s with
    | none => exact .inr ⟨‹_›, rfl, rfl⟩
    | some e =>
      cases hh ▸ handshake_aborts cfg s with
      | raised hc => exact .inl ⟨_, hc, rfl⟩

/-- **The whole attempt**: a recipient is reported delivered only if the connection was made, the
    handshake completed, and (SMTP) the next hop accepted MAIL, that RCPT, DATA and the data. -/
theorem attempt_delivered_only_if_accepted (cfg : Cfg) (hl : cfg.lmtp = false) (s : Script) (i : Nat)
    (hi : clsOf (attempt cfg s) i = some .ok) :
    s.connect = .ok ∧ handshake cfg s = none ∧
    (∃ c, s.rcpts[i]? = some (.code c) ∧ isError c = false) ∧ (∃ c, s.eod = .code c ∧ isError c = false) ∧
    (∃ c, s.data = .code c ∧ isError c = false) ∧ (∃ c, s.mail = .code c ∧ isError c = false) := by
  rcases attempt_cases cfg s with ⟨c, hc, h⟩ | ⟨hc, hh, h⟩ <;> rw [h] at hi
  · exact absurd (by simpa [clsOf] using hi) hc
  · obtain ⟨_, rc, _, _, c, hm, hr, hd, he, hme, hde, hee, hci, hce⟩ := smtp_delivered cfg hl s i hi
    exact ⟨hc, hh, ⟨c, by simp [hr, hci], hce⟩, ⟨_, he, hee⟩, ⟨_, hd, hde⟩, ⟨_, hm, hme⟩⟩

/-- **Every recipient gets an answer** (the relay contract the queue relies on, `C01.relay_contract_met`): when an SMTP / LMTP
    attempt returns per-recipient results at all, it returns one for each recipient of the envelope, in order — whatever the
    downstream server did. -/
theorem attempt_answers_everyone (cfg : Cfg) (s : Script) (l : List Cls) (h : attempt cfg s = .table l) :
    l.length = s.rcpts.length := by
  rcases attempt_cases cfg s with ⟨c, _, hr⟩ | ⟨_, _, hd⟩
  · simp [hr] at h
  · have ho := deliver_outcome cfg s
    rw [← hd, h] at ho
    cases ho <;> simp [*, fill, mergeLmtp_length]

/-! Non-vacuity: scripts that meet the hypotheses, and a mixed outcome. -/
example : clsOf (attempt {} { rcpts := [.code 250, .code 550, .code 250] }) 0 = some .ok := by decide
example : clsOf (attempt {} { rcpts := [.code 250, .code 550, .code 250] }) 1 = some .perm := by decide
example : attempt {} { rcpts := [.code 250, .code 550], eod := .code 451 } = .table [.temp, .perm] := by decide
example : attempt { lmtp := true } { rcpts := [.code 250, .code 550, .code 250], eodPer := [.code 250, .code 452] }
    = .table [.ok, .perm, .temp] := by decide
example : attempt {} { rcpts := [.code 250], eod := .close } = .raised .temp := by decide

theorem pipeCls_ok {o : PipeOut} : pipeCls o = .ok ↔ o = .exit0 := by cases o <;> simp [pipeCls]

theorem pipe_table {per : Bool} {outs : List PipeOut} {l : List Cls} (h : pipeAttempt per outs = .table l) :
    l = outs.map (if per then pipeCls else fun _ => .ok) ∧ (per = false → outs.head? = some .exit0 ∨ outs = []) := by
  unfold pipeAttempt at h
  split at h
  · simp_all
  · split at h <;> simp_all

/-- **Pipe relay**: per-recipient mode reports a recipient delivered only if its process exited
    with status 0; single mode delivers only if the process did. -/
theorem pipe_delivered_only_on_exit0 (per : Bool) (outs : List PipeOut) (l : List Cls) (i : Nat)
    (h : pipeAttempt per outs = .table l) (hi : l[i]? = some .ok) :
    (per = true → outs[i]? = some .exit0) ∧ (per = false → outs.head? = some .exit0) := by
  obtain ⟨rfl, hs⟩ := pipe_table h
  refine ⟨?_, fun hp => (hs hp).resolve_right ?_⟩
  · rintro rfl
    obtain ⟨o, ho, hc⟩ : ∃ o, outs[i]? = some o ∧ pipeCls o = .ok := by simpa using hi
    exact pipeCls_ok.mp hc ▸ ho
  · rintro rfl; simp at hi

theorem pipe_answers_everyone (per : Bool) (outs : List PipeOut) (l : List Cls) (h : pipeAttempt per outs = .table l) :
    l.length = outs.length := by
  simp [(pipe_table h).1]

theorem http_table {n : Nat} {o : HttpOut} {l : List Cls} (h : httpAttempt n o = .table l) :
    l = List.replicate n .ok ∧ ∃ st hdr, o = .response st hdr ∧ st / 100 = 2 := by
  unfold httpAttempt at h
  split at h
  · cases h
  · cases h
  · split at h
    · exact ⟨by simp_all, _, _, rfl, by simp_all⟩
    · split at h <;> (try split at h) <;> cases h

/-- **HTTP relay**: delivered only on a 2xx status. -/
theorem http_delivered_only_on_2xx (n : Nat) (o : HttpOut) (l : List Cls) (h : httpAttempt n o = .table l) :
    ∃ st hdr, o = .response st hdr ∧ st / 100 = 2 :=
  (http_table h).2

theorem http_failure_is_typed (n : Nat) : httpAttempt n .refused = .raised .temp ∧ httpAttempt n .timeout = .raised .temp := by
  simp [httpAttempt]

theorem http_answers_everyone (n : Nat) (o : HttpOut) (l : List Cls) (h : httpAttempt n o = .table l) : l.length = n := by
  simp [(http_table h).1]

section Mx
open Slimta.Mx

theorem insertRec_spec (r : Nat × Nat) (l : List (Nat × Nat)) : (insertRec r l).Perm (r :: l) ∧
    (l.Pairwise (fun a b => a.1 ≤ b.1) → (insertRec r l).Pairwise (fun a b => a.1 ≤ b.1)) :=
  insert_perm_sorted (p := fun x => decide (x.1 > r.1)) Prod.fst r (insertRec r) rfl
    (fun x xs => by simp only [insertRec, decide_eq_true_eq])
    (fun x h => by simp only [decide_eq_true_eq] at h; omega) (fun x h => by simp only [decide_eq_false_iff_not] at h; omega) l

theorem sortMx_aux (l acc : List (Nat × Nat)) (h : acc.Pairwise (fun a b => a.1 ≤ b.1)) :
    (l.foldl (fun a r => insertRec r a) acc).Perm (l ++ acc) ∧
    (l.foldl (fun a r => insertRec r a) acc).Pairwise (fun a b => a.1 ≤ b.1) := by
  induction l generalizing acc with
  | nil => exact ⟨.refl _, h⟩
  | cons x xs ih =>
    obtain ⟨hp, hs⟩ := ih (insertRec x acc) ((insertRec_spec x acc).2 h)
    exact ⟨hp.trans ((List.Perm.append_left _ (insertRec_spec x acc).1).trans List.perm_middle), hs⟩

theorem sortMx_sorted_perm (l : List (Nat × Nat)) : (sortMx l).Perm l ∧ (sortMx l).Pairwise (fun a b => a.1 ≤ b.1) := by
  have := sortMx_aux l [] .nil
  rwa [List.append_nil] at this

/-- **Unroutable domain = permanent failure**: neither MX nor A records. -/
theorem unroutable_is_permanent (mx : Ans (Nat × Nat)) (a : Ans Nat) (n : Nat)
    (hmx : (match mx with | .noData | .notFound => True | _ => False))
    (ha : (match a with | .noData | .notFound => True | _ => False)) :
    route true mx a n = .permanent := by
  cases mx <;> simp at hmx <;> cases a <;> simp at ha <;> simp [route, resolve]

/-- **Resolver error = transient failure.** -/
theorem resolver_error_is_transient (a : Ans Nat) (n : Nat) : route true .error a n = .transient := by
  simp [route, resolve]

theorem resolver_error_on_fallback_is_transient (mx : Ans (Nat × Nat)) (n : Nat)
    (hmx : (match mx with | .noData | .notFound => True | _ => False)) : route true mx .error n = .transient := by
  cases mx <;> simp at hmx <;> simp [route, resolve]

/-- A recipient without a domain is a permanent failure, whatever the resolver would say. -/
theorem no_domain_is_permanent (mx : Ans (Nat × Nat)) (a : Ans Nat) (n : Nat) : route false mx a n = .permanent := by
  simp [route]

/-- **With MX records every host gets its turn**: attempt `n` goes to the `(n mod k)`-th record of the sorted list. -/
theorem mx_attempts_cycle (l : List (Nat × Nat)) (hne : l ≠ []) (a : Ans Nat) (n : Nat) :
    ∃ r, (sortMx l)[n % (sortMx l).length]? = some r ∧ route true (.records l) a n = .deliverTo r.2 ∧ r ∈ l := by
  obtain ⟨hp, _⟩ := sortMx_sorted_perm l
  have hpos : 0 < (sortMx l).length := hp.length_eq ▸ List.length_pos_iff.mpr hne
  have hlt := Nat.mod_lt n hpos
  refine ⟨(sortMx l)[n % (sortMx l).length], by simp [hlt], ?_, hp.mem_iff.mp (List.getElem_mem hlt)⟩
  have hne2 : (sortMx l).isEmpty = false := by simpa using List.ne_nil_of_length_pos hpos
  simp [route, resolve, hne2, chooseMx, hlt]

/-- **With MX records the first attempt goes to a host of the best priority.** -/
theorem mx_first_attempt_best (l : List (Nat × Nat)) (hne : l ≠ []) (a : Ans Nat) :
    ∃ r, route true (.records l) a 0 = .deliverTo r.2 ∧ r ∈ l ∧ ∀ x ∈ l, r.1 ≤ x.1 := by
  obtain ⟨r, hget, hroute, hmem⟩ := mx_attempts_cycle l hne a 0
  obtain ⟨hp, hs⟩ := sortMx_sorted_perm l
  exact ⟨r, hroute, hmem, fun x hx =>
    head_le_of_sorted (key := (·.1)) hs (by simpa [List.head?_eq_getElem?] using hget) (hp.mem_iff.mpr hx)⟩

/-- **While the cache entry is fresh the resolver is not asked**, and the entry is left as it is. -/
theorem cache_fresh_no_query (c : Cache) (now : Nat) (q : Query) (h : expired c now = false) :
    (cacheGet c now q).1 = c ∧ (cacheGet c now q).2.1 = false := by
  simp [cacheGet, h]

/-- **An expired entry is never served**: once the clock has reached the expiration (or nothing worth keeping was cached), `get`
    asks the resolver, and what it gives is what a brand-new `MxRecord` would give — the old records play no part. -/
theorem cache_expired_asks_again (c : Cache) (now : Nat) (q : Query) (h : expired c now = true) :
    (cacheGet c now q).2.1 = true ∧ (cacheGet c now q).2.2 = (cacheGet {} now q).2.2 := by
  have h0 : expired ({} : Cache) now = true := by simp [expired]
  simp only [cacheGet, h, h0, if_true]
  cases resolveTtl now q with
  | none => simp
  | some p => simp

theorem expired_mono (c : Cache) (now now' : Nat) (h : expired c now = true) (hle : now ≤ now') : expired c now' = true := by
  simp only [expired, Bool.or_eq_true, beq_iff_eq, decide_eq_true_eq] at h ⊢
  rcases h with h | h
  · exact Or.inl h
  · exact Or.inr (Nat.le_trans h hle)

/-- **A resolver error is not remembered**: the cache is left untouched, so the next attempt — whenever it comes — asks again. -/
theorem resolver_error_not_cached (c : Cache) (now : Nat) (q : Query) (h : expired c now = true) (he : resolveTtl now q = none)
    (now' : Nat) (hle : now ≤ now') :
    (cacheGet c now q).1 = c ∧ (cacheGet c now q).2.2 = .dnsError ∧ expired (cacheGet c now q).1 now' = true := by
  have e : cacheGet c now q = (c, true, .dnsError) := by simp [cacheGet, h, he]
  rw [e]; exact ⟨rfl, rfl, expired_mono c now now' h hle⟩

/-- **"No usable records" is not remembered either** (neither MX nor A): the entry stays expired for ever. -/
theorem negative_answer_not_cached (c : Cache) (now : Nat) (q : Query) (h : expired c now = true)
    (hn : resolveTtl now q = some (none, 0)) (now' : Nat) :
    (cacheGet c now q).2.2 = .nothing ∧ expired (cacheGet c now q).1 now' = true := by
  have e : cacheGet c now q = (⟨none, 0⟩, true, .nothing) := by
    simp only [cacheGet, h, if_true, hn]
  rw [e]; simp [expired]

/-- **An answer is kept exactly until its time to live is over**: after a successful lookup the entry is fresh strictly before the
    expiration the lookup computed and expired from then on. -/
theorem kept_until_ttl (c : Cache) (now : Nat) (q : Query) (h : expired c now = true) (recs) (e : Nat)
    (hr : resolveTtl now q = some (recs, e)) (he : e ≠ 0) (now' : Nat) :
    expired (cacheGet c now q).1 now' = decide (e ≤ now') := by
  have hc : (cacheGet c now q).1 = ⟨recs, e⟩ := by simp [cacheGet, h, hr]
  rw [hc]
  simp [expired, he]

/-- Error classes with the cache in between: a resolver error is a transient failure, no usable record a permanent one. -/
theorem routeCached_classes (c : Cache) (now : Nat) (q : Query) (n : Nat) :
    ((cacheGet c now q).2.2 = .dnsError → (routeCached c now q n).2.2 = .transient) ∧
    ((cacheGet c now q).2.2 = .nothing → (routeCached c now q n).2.2 = .permanent) := by
  constructor <;> intro h <;> simp [routeCached, h]

/-- non-vacuity: an answer with a time to live of 60 is served from the cache at 59 and asked for again at 60 -/
example : ((cacheGet (cacheGet {} 1000 ⟨.records [(10, 1, 60)], .noData⟩).1 1059 ⟨.error, .error⟩).2,
           (cacheGet (cacheGet {} 1000 ⟨.records [(10, 1, 60)], .noData⟩).1 1060 ⟨.error, .error⟩).2)
    = ((false, .hosts [(10, 1)]), (true, .dnsError)) := by decide

end Mx

/-- The answers the command model reads, for a script of the result model (SMTP): MAIL, each RCPT, DATA, the message data. -/
def toAns : Out → RelaySession.Ans
  | .code c => .code c
  | _ => .broken

def answers (s : Script) : List RelaySession.Ans :=
  toAns s.mail :: (s.rcpts.map toAns ++ [toAns s.data, toAns s.eod])

theorem isError_agree (c : Nat) : RelaySession.isError c = isError c := rfl

theorem readN_codes (cs : List Nat) (rest : List RelaySession.Ans) :
    RelaySession.readN cs.length (cs.map RelaySession.Ans.code ++ rest) = some (cs, rest) := by
  induction cs with
  | nil => simp [RelaySession.readN]
  | cons c cs ih => simp [RelaySession.readN, ih]

theorem deliver_codes (lmtp p : Bool) {m : Nat} (hm : isError m = false) (rc : List Nat) (d : Nat) (rest : List RelaySession.Ans) :
    RelaySession.deliver lmtp p rc.length (.code m :: (rc.map .code ++ .code d :: rest)) =
      RelaySession.afterEnvelope lmtp p ([.mail] ++ List.replicate rc.length .rcpt ++ [.data]) m rc d rest := by
  have h1 : ∀ c rest, RelaySession.readN 1 (.code c :: rest) = some ([c], rest) := fun c rest => readN_codes [c] rest
  cases p
  · simp [RelaySession.deliver, h1, isError_agree, hm, readN_codes]
  · have : RelaySession.readN (rc.length + 2) (.code m :: (rc.map .code ++ .code d :: rest)) = some (m :: (rc ++ [d]), rest) := by
      simpa using readN_codes (m :: (rc ++ [d])) rest
    simp [RelaySession.deliver, this]

/-- **The two views of one delivery agree** (SMTP): whenever the result model reports some recipient delivered, the command model —
    fed the same answers — has written the message data and has seen it accepted. -/
theorem delivered_means_content_was_sent (cfg : Cfg) (hl : cfg.lmtp = false) (s : Script) (i : Nat)
    (hi : clsOf (deliver cfg s) i = some .ok) :
    (RelaySession.deliver false s.pipelining s.rcpts.length (answers s)).delivered = true ∧
    RelaySession.Cmd.body ∈ (RelaySession.deliver false s.pipelining s.rcpts.length (answers s)).cmds := by
  obtain ⟨cm, rc, cd, ce, ci, hcm, hr, hcd, hce, hcme, hcde, hcee, hci, hcie⟩ := smtp_delivered cfg hl s i hi
  have hans : answers s = .code cm :: (rc.map .code ++ .code cd :: [.code ce]) := by
    simp [answers, hcm, hcd, hce, hr, toAns, Function.comp_def]
  have hacc : ¬ ∀ a ∈ rc, isError a = true := fun h => by simpa [hcie] using h ci (List.mem_of_getElem? hci)
  have r4 : RelaySession.readN 1 [.code ce] = some ([ce], []) := readN_codes [ce] _
  rw [hans, hr, List.length_map, deliver_codes _ _ hcme]
  simp [RelaySession.afterEnvelope, isError_agree, hcme, hcde, hacc, r4, hcee]

end Slimta.C11
