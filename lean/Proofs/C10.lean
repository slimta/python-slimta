import Model.Client
import Proofs.C17
/-!
# C10 — the pipelining client pairs every reply with the command that caused it

Model: `Model/Client.lean` (reply queue of `Client` / `LmtpClient`), on top of the reply parser of `Model/Reply.lean` and its
round-trip theorem (C17). The invariant `Inv`: the slots waiting for a reply are consecutive, and the connection holds exactly
the script's replies from the first of them on; every method call keeps it.
-/
namespace Slimta.C10
open Slimta.Client

/-- A server reply script: the k-th entry is the reply to the k-th command issued (greeting = 0). -/
structure Entry where
  code : Bytes
  msg : Bytes
  isCode : Reply.IsCode code
  codeOk : Reply.codeOk code = true        -- 1xx..5xx: anything else is a bad reply (C17)
  utf8 : Reply.utf8Ok (normCRLF msg) = true

def wire (script : List Entry) : Bytes := script.flatMap fun e => Reply.encode e.code e.msg

theorem wire_cons (e : Entry) (rest : List Entry) : wire (e :: rest) = Reply.encode e.code e.msg ++ wire rest := by
  simp [wire]

def NoEmpty (segs : List Bytes) : Prop := ∀ x ∈ segs, x ≠ []

theorem recvLoop_unread_suffix (segs : List Bytes) (code : Option Bytes) (lines : List Bytes) (buf : Bytes)
    (r : Reply.Result) (h : Reply.recvLoop code lines buf segs = .ok r) : ∃ pre, segs = pre ++ r.unread := by
  induction segs generalizing code lines buf with
  | nil =>
    simp only [Reply.recvLoop] at h
    split at h <;> simp at h
    subst h; exact ⟨[], rfl⟩
  | cons seg rest ih =>
    simp only [Reply.recvLoop] at h
    split at h
    · simp at h; subst h; exact ⟨[], rfl⟩
    · simp at h
    · split at h
      · simp at h
      · obtain ⟨pre, hp⟩ := ih _ _ _ h
        exact ⟨seg :: pre, by simp [hp]⟩

/-- All filled slots that the script covers hold the script's reply for that slot. -/
def Correct (script : List Entry) (filled : List (Nat × Bytes × Bytes)) : Prop :=
  ∀ x ∈ filled, ∀ e, script[x.1]? = some e → x.2.1 = e.code ∧ x.2.2 = normCRLF e.msg

/-- The connection still holds exactly the replies from position `j` on (plus anything after). -/
def Aligned (script : List Entry) (extra : Bytes) (j : Nat) (s : St) : Prop :=
  s.buf ++ s.segs.flatten = wire (script.drop j) ++ extra ∧ NoEmpty s.segs

def Inv (script : List Entry) (extra : Bytes) (s : St) : Prop :=
  Correct script s.filled ∧
  (s.failed.isSome = true ∨
   ∃ j, s.queue = List.range' j (s.next - j) ∧ j ≤ s.next ∧ (script.length ≤ j ∨ Aligned script extra j s))

theorem inv_enqueue (script extra) (s : St) (h : Inv script extra s) : Inv script extra (enqueue s).1 := by
  obtain ⟨hc, hf | ⟨j, hq, hj, ha⟩⟩ := h
  · exact ⟨hc, .inl hf⟩
  · refine ⟨hc, .inr ⟨j, ?_, Nat.le_succ_of_le hj, ha⟩⟩
    show s.queue ++ [s.next] = List.range' j (s.next + 1 - j)
    rw [hq, show s.next + 1 - j = (s.next - j) + 1 by omega, List.range'_1_concat, Nat.add_sub_cancel' hj]

theorem inv_congr (script extra) (s t : St) (h : Inv script extra s)
    (h1 : t.filled = s.filled) (h2 : t.failed = s.failed) (h3 : t.queue = s.queue) (h4 : t.next = s.next)
    (h5 : t.buf = s.buf) (h6 : t.segs = s.segs) : Inv script extra t := by
  unfold Inv Aligned
  rw [h1, h2, h3, h4, h5, h6]
  exact h

theorem getElem?_drop_head (script : List Entry) (j : Nat) (e : Entry) (rest : List Entry)
    (h : script.drop j = e :: rest) : script[j]? = some e ∧ script.drop (j + 1) = rest := by
  have hj : j < script.length := Nat.lt_of_not_le fun hle => by simp [List.drop_eq_nil_of_le hle] at h
  obtain ⟨h1, h2⟩ := List.cons.inj (List.drop_eq_getElem_cons hj ▸ h)
  exact ⟨by simp [hj, h1], h2⟩

theorem inv_flush (script : List Entry) (extra : Bytes) (fuel : Nat) (s : St) (h : Inv script extra s)
    (hf : s.failed = none) : Inv script extra (flush fuel s) := by
  induction fuel generalizing s with
  | zero => exact h
  | succ fuel ih =>
    simp only [flush]
    cases hq : s.queue with
    | nil => exact h
    | cons slot rest =>
      simp only
      obtain ⟨hc, hfl | ⟨j, hqueue, hj, ha⟩⟩ := h
      · simp [hf] at hfl
      -- the queue is j, j+1, ...: its head is j
      have hpos : 0 < s.next - j := by
        cases hn : s.next - j with
        | zero => rw [hn] at hqueue; simp [hq] at hqueue
        | succ n => omega
      obtain ⟨rfl, hrest⟩ : slot = j ∧ rest = List.range' (j + 1) (s.next - (j + 1)) := by
        have : s.next - j = (s.next - (j + 1)) + 1 := by omega
        rw [hq, this, List.range'_succ] at hqueue
        simpa using hqueue
      have hn : slot + 1 ≤ s.next := by omega
      -- filling slot `j` with the script's reply for `j`, if the script has one
      have hfill : ∀ c b, (∀ e, script[slot]? = some e → c = e.code ∧ b = normCRLF e.msg) →
          Correct script (s.filled ++ [(slot, c, b)]) := fun c b hcb x hx e he => by
        rcases List.mem_append.mp hx with hx | hx
        · exact hc x hx e he
        · cases List.mem_singleton.mp hx; exact hcb e he
      cases hdrop : script.drop slot with
      | nil =>
        -- past the end of the script: whatever happens concerns no scripted slot
        have hlen : script.length ≤ slot := by simpa using hdrop
        cases hr : Reply.recvRun s.buf s.segs with
        | ok r => exact ih _ ⟨hfill _ _ fun e he => by simp [hlen] at he, .inr ⟨_, hrest, hn, .inl (by omega)⟩⟩ hf
        | error p =>
          obtain ⟨e, rb⟩ := p
          cases e <;> exact ⟨hc, .inl rfl⟩
      | cons e tail =>
        obtain ⟨hget, hdrop'⟩ := getElem?_drop_head script slot e tail hdrop
        obtain ⟨hal, hne⟩ := ha.resolve_left fun hle => by simp [List.drop_eq_nil_of_le hle] at hdrop
        rw [hdrop, wire_cons, List.append_assoc] at hal
        obtain ⟨r, hr, hcode, hbody, hleft⟩ := C17.reply_roundtrip e.code e.isCode e.codeOk e.msg e.utf8
          (wire tail ++ extra) s.buf s.segs hne hal
        obtain ⟨pre, hpre⟩ := recvLoop_unread_suffix s.segs none [] s.buf r hr
        rw [hr]
        refine ih _ ⟨hfill _ _ fun e' he' => ?_, .inr ⟨_, hrest, hn, .inr ⟨hdrop' ▸ hleft, fun x hx => hne x ?_⟩⟩⟩ hf
        · cases hget.symm.trans he'
          exact ⟨hcode, hbody⟩
        · rw [hpre]; simp [hx]

theorem inv_flushUnless (script extra) (s : St) (h : Inv script extra s) (hf : s.failed = none) :
    Inv script extra (flushUnlessPipelining s) := by
  simp only [flushUnlessPipelining]; split
  · exact h
  · exact inv_flush script extra _ s h hf

theorem enqueue_failed (s : St) : (enqueue s).1.failed = s.failed := rfl

theorem inv_enqueues (script extra) (l : List Nat) (st : St) (hi : Inv script extra st) (hfn : st.failed = none) :
    Inv script extra (l.foldl (fun st _ => (enqueue st).1) st) ∧ (l.foldl (fun st _ => (enqueue st).1) st).failed = none := by
  induction l generalizing st with
  | nil => exact ⟨hi, hfn⟩
  | cons a rest ih => exact ih _ (inv_enqueue _ _ _ hi) hfn

theorem inv_call (script : List Entry) (extra : Bytes) (s : St) (m : Method) (h : Inv script extra s) :
    Inv script extra (call s m) := by
  unfold call
  by_cases hnf : s.failed.isSome = true
  · rw [if_pos hnf]; exact h
  rw [if_neg hnf]
  have hf : s.failed = none := by simpa using hnf
  -- every method enqueues and flushes; what it does besides is to fields that `Inv` does not read
  have hN : Inv script extra (flushNow (enqueue s).1) := inv_flush _ _ _ _ (inv_enqueue script extra s h) hf
  have hU := inv_flushUnless _ _ _ (inv_enqueue script extra s h) hf
  have upd : ∀ {t : St} {p r d}, Inv script extra t → Inv script extra { t with pipelining := p, rcpttos := r, dataSlots := d } :=
    fun ht => inv_congr _ _ _ _ ht rfl rfl rfl rfl rfl rfl
  cases m with
  | banner | helo | data | quit | custom | getReply => exact hN
  | mail => exact hU
  | rset =>
    dsimp only
    split
    · exact upd hN
    · exact hN
  | rcpt =>
    dsimp only
    split
    · exact upd hU
    · exact hU
  | ehlo | lhlo =>
    dsimp only
    split
    · split
      · exact upd hN
      · exact hN
    · exact hN
  | sendData | sendEmpty =>
    dsimp only
    split
    · split
      · exact ⟨h.1, .inl rfl⟩
      · -- several slots, one per accepted recipient
        obtain ⟨hi, hfn⟩ := inv_enqueues script extra _ s h hf
        exact inv_flushUnless _ _ _ (upd hi) hfn
    · exact hU

theorem inv_run (script : List Entry) (extra : Bytes) (s : St) (ms : List Method) (h : Inv script extra s) :
    Inv script extra (run s ms) := by
  induction ms generalizing s with
  | nil => exact h
  | cons m rest ih => exact ih _ (inv_call script extra s m h)

/-- **Pairing.** For every reply script, every sequence of client method calls (SMTP or LMTP, with
    or without PIPELINING, pipelined or not), every surplus of bytes after the script and every
    segmentation of the reply stream: each reply object that has been filled holds the code and
    the (CRLF-normalised) text of the script's reply at its own position — the reply to the command
    that created it — never another's. -/
theorem pairing (script : List Entry) (extra : Bytes) (lmtp : Bool) (buf : Bytes) (segs : List Bytes)
    (hne : NoEmpty segs) (hs : buf ++ segs.flatten = wire script ++ extra) (ms : List Method) :
    Correct script (run { lmtp := lmtp, buf := buf, segs := segs } ms).filled :=
  (inv_run script extra _ ms
    ⟨by intro x hx; simp at hx, Or.inr ⟨0, by simp, by simp, Or.inr ⟨by simpa using hs, hne⟩⟩⟩).1

theorem flush_dataSlots (fuel : Nat) (t : St) : (flush fuel t).dataSlots = t.dataSlots := by
  fun_induction flush fuel t
  case case3 ih => exact ih
  all_goals rfl

/-- **LMTP**: `send_data`, on a live client that has read every RCPT reply, creates one data-reply
    slot per recipient whose RCPT reply is 2xx, in RCPT order, numbered consecutively from the next
    free slot — so by `pairing` they receive the next replies of the script in that order. -/
theorem lmtp_data_slots (s : St) (hl : s.lmtp = true) (hf : s.failed = none)
    (hall : ∀ r ∈ s.rcpttos, (lookupFilled r s.filled).isSome = true) :
    (call s .sendData).dataSlots = s.dataSlots ++
      [(List.range (s.rcpttos.filter fun r => match lookupFilled r s.filled with
          | some (c, _) => codeIs2xx c
          | none => false).length).map (· + s.next)] := by
  have hany : (s.rcpttos.any fun r => (lookupFilled r s.filled).isNone) = false := by
    simpa [Option.isSome_iff_ne_none] using hall
  simp only [call, hf, Option.isSome_none, Bool.false_eq_true, if_false, hl, if_true, hany, flushUnlessPipelining]
  split
  · rfl
  · exact flush_dataSlots _ _

-- non-vacuity of `Entry.isCode`: "250"
example : Reply.IsCode [50, 53, 48] := ⟨50, 53, 48, rfl, by decide, by decide, by decide⟩

end Slimta.C10
