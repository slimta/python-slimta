import Model.Ingress
import Proofs.Lemmas.QueueHistory
import Proofs.C16
import Proofs.C01
/-!
# C02 — an edge acknowledges a message only after custody of every recipient is taken

Over `Model/Edge.lean`: the reply chosen by the SMTP and WSGI edges from *any* list of enqueue results, `Queue.enqueue`'s
result for any vector of write outcomes, `ProxyQueue.enqueue` for any relay result, and the order of events (every write
finished before the reply). Then the compositions, over `Model/Ingress.lean`: one `enqueue` call through policies (C16),
storage writes and the queue machine (C01), and the hops edge → proxy → relay and relay → edge → queue between two hosts
(C11), by SMTP and by HTTP.
-/
namespace Slimta.C02
open Slimta.Edge

/-- Error objects carry error codes (a `QueueError.reply` / `RelayError.reply` is a 4xx or 5xx reply). -/
def ErrCode (c : Nat) : Prop := c / 100 = 4 ∨ c / 100 = 5

def ErrCodes (results : List Res) : Prop :=
  ∀ r ∈ results, match r with
    | .queueError (some c) => ErrCode c
    | .relayError c => ErrCode c
    | _ => True

theorem firstError_none {rs : List Res} : firstError rs = none ↔ ∀ r ∈ rs, r = .id := by
  induction rs with
  | nil => simp [firstError]
  | cons r rs ih =>
    cases r <;> simp [firstError, ih]

theorem firstError_mem {rs : List Res} {r : Res} (h : firstError rs = some r) : r ∈ rs ∧ r ≠ .id := by
  induction rs with
  | nil => simp [firstError] at h
  | cons x xs ih =>
    cases x with
    | id => simp only [firstError] at h; exact ⟨List.mem_cons_of_mem _ (ih h).1, (ih h).2⟩
    | _ => cases h; simp

/-- The code sent for a failure is an error code: the failure's own 4xx/5xx, or 451 when it carries none. -/
theorem replyCode_error {rs : List Res} {r : Res} (hc : ErrCodes rs) (h : firstError rs = some r) :
    ErrCode (replyCode (some r)) := by
  obtain ⟨hm, hne⟩ := firstError_mem h
  have := hc r hm
  cases r with
  | id => exact absurd rfl hne
  | queueError o =>
    cases o with
    | none => exact .inl (by decide)
    | some c => exact this
  | relayError c => exact this

theorem ErrCode.not_2xx {c : Nat} (h : ErrCode c) : c / 100 ≠ 2 := by unfold ErrCode at h; omega

theorem smtpReply_class {rs : List Res} (hc : ErrCodes rs) :
    smtpReply rs = 250 ∧ (∀ r ∈ rs, r = .id) ∨ ErrCode (smtpReply rs) ∧ ∃ r ∈ rs, r ≠ .id := by
  unfold smtpReply
  cases hf : firstError rs with
  | none => exact .inl ⟨rfl, firstError_none.mp hf⟩
  | some r => exact .inr ⟨replyCode_error hc hf, r, firstError_mem hf⟩

/-- **SMTP: a 2xx reply to the end of DATA implies custody of every envelope.** -/
theorem smtp_ack_implies_custody (rs : List Res) (hc : ErrCodes rs) (h : smtpReply rs / 100 = 2) : ∀ r ∈ rs, r = .id := by
  rcases smtpReply_class hc with ⟨_, hall⟩ | ⟨he, _⟩
  · exact hall
  · exact absurd h he.not_2xx

theorem httpStatus_not_2xx {c : Nat} (h : c / 100 ≠ 2) : httpStatus c / 100 = 4 ∨ httpStatus c / 100 = 5 := by
  unfold httpStatus
  rw [if_neg (by simpa using h)]
  split
  · decide
  · split <;> decide

theorem httpStatus_class (c : Nat) : httpStatus c / 100 = 2 ↔ c / 100 = 2 :=
  ⟨fun h => Decidable.byContradiction fun h2 => by have := httpStatus_not_2xx h2; omega, fun h => by simp [httpStatus, h]⟩

/-- **WSGI: a 2xx status implies custody of every envelope.** -/
theorem wsgi_ack_implies_custody (rs : List Res) (hc : ErrCodes rs) (h : wsgiStatus rs / 100 = 2) : ∀ r ∈ rs, r = .id :=
  smtp_ack_implies_custody rs hc ((httpStatus_class _).mp h)

/-- **Any failed write or relay is reported**: the SMTP reply is 4xx/5xx, the HTTP status 4xx/5xx. -/
theorem failure_is_reported (rs : List Res) (hc : ErrCodes rs) (r : Res) (hr : r ∈ rs) (hne : r ≠ .id) :
    ErrCode (smtpReply rs) ∧ (wsgiStatus rs / 100 = 4 ∨ wsgiStatus rs / 100 = 5) := by
  rcases smtpReply_class hc with ⟨_, hall⟩ | ⟨he, _⟩
  · exact absurd (hall r hr) hne
  · exact ⟨he, httpStatus_not_2xx he.not_2xx⟩

theorem enqueue_all_ids (ws : List Write) (rs : List Res) (h : enqueue ws = some rs) :
    (∀ r ∈ rs, r = .id) ↔ ∀ w ∈ ws, w = .ok := by
  unfold enqueue at h
  split at h <;> cases h
  rename_i hno
  rw [List.forall_mem_map]
  refine forall₂_congr fun w hw => ?_
  cases w with
  | otherExc => exact absurd (List.contains_iff_mem.mpr hw) hno
  | _ => simp

/-- An exception other than `QueueError` propagates out of `Queue.enqueue`: the client sees 421 / 500. -/
theorem enqueue_exception (ws : List Write) (h : enqueue ws = none) : smtpSees (enqueue ws) = 421 ∧ wsgiSees (enqueue ws) = 500 := by
  simp [h, smtpSees, wsgiSees]

def WriteErrCodes (ws : List Write) : Prop := ∀ w ∈ ws, match w with | .queueError (some c) => ErrCode c | _ => True

theorem enqueue_errcodes (ws : List Write) (rs : List Res) (hw : WriteErrCodes ws) (h : enqueue ws = some rs) : ErrCodes rs := by
  unfold enqueue at h
  split at h <;> cases h
  intro r hr
  obtain ⟨w, hwm, rfl⟩ := List.mem_map.mp hr
  have := hw w hwm
  cases w with
  | queueError o => cases o <;> exact this
  | _ => trivial

/-- No third case: the 421 the client sees when `enqueue` raises is itself an error code. -/
theorem smtpSees_enqueue (ws : List Write) (hw : WriteErrCodes ws) :
    smtpSees (enqueue ws) = 250 ∧ (∀ w ∈ ws, w = .ok) ∨ ErrCode (smtpSees (enqueue ws)) := by
  cases he : enqueue ws with
  | none => exact .inr (.inl rfl)
  | some rs =>
    rcases smtpReply_class (enqueue_errcodes ws rs hw he) with ⟨h, hall⟩ | ⟨h, _⟩
    · exact .inl ⟨h, (enqueue_all_ids ws rs he).mp hall⟩
    · exact .inr h

theorem wsgi_ack_smtp_ack {r : Option (List Res)} (h : wsgiSees r / 100 = 2) : smtpSees r / 100 = 2 := by
  cases r with
  | none => exact absurd h (by decide)
  | some l => exact (httpStatus_class _).mp h

/-- **End to end (Queue)**: whatever the write outcomes, a 2xx to the client of either edge means
    that every envelope of the message was written. -/
theorem queue_ack_means_all_written (ws : List Write) (hw : WriteErrCodes ws)
    (h : smtpSees (enqueue ws) / 100 = 2 ∨ wsgiSees (enqueue ws) / 100 = 2) : ∀ w ∈ ws, w = .ok := by
  have h2 : smtpSees (enqueue ws) / 100 = 2 := h.elim id wsgi_ack_smtp_ack
  rcases smtpSees_enqueue ws hw with ⟨_, hall⟩ | he
  · exact hall
  · exact absurd h2 he.not_2xx

theorem proxyEnqueue_cases (o : RelayOut) :
    proxyEnqueue o = [.id] ∧ (o = .whole ∨ ∃ l, o = .perRcpt l ∧ ∀ x ∈ l, x = none) ∨
    ∃ c, proxyEnqueue o = [.relayError c] ∧ (o = .raised c ∨ ∃ l, o = .perRcpt l ∧ some c ∈ l) := by
  cases o with
  | whole => exact Or.inl ⟨rfl, Or.inl rfl⟩
  | raised c => exact Or.inr ⟨c, rfl, Or.inl rfl⟩
  | perRcpt l =>
    simp only [proxyEnqueue]
    cases hf : l.find? Option.isSome with
    | none =>
      refine Or.inl ⟨rfl, Or.inr ⟨l, rfl, fun x hx => ?_⟩⟩
      simpa using List.find?_eq_none.mp hf x hx
    | some y =>
      cases y with
      | none => exact absurd (List.find?_some hf) (by simp)
      | some c => exact Or.inr ⟨c, rfl, Or.inr ⟨l, rfl, List.mem_of_find?_eq_some hf⟩⟩

theorem proxy_ack_means_all_delivered (o : RelayOut)
    (hcodes : match o with | .raised c => ErrCode c | .perRcpt l => ∀ c, some c ∈ l → ErrCode c | .whole => True)
    (h : smtpSees (some (proxyEnqueue o)) / 100 = 2 ∨ wsgiSees (some (proxyEnqueue o)) / 100 = 2) :
    o = .whole ∨ ∃ l, o = .perRcpt l ∧ ∀ x ∈ l, x = none := by
  rcases proxyEnqueue_cases o with ⟨_, h1⟩ | ⟨c, hc, h1⟩
  · exact h1
  · -- the relay reported an error: its code is an error code, and it is what the SMTP edge answers
    have hcode : ErrCode c := by
      rcases h1 with rfl | ⟨l, rfl, hm⟩
      · exact hcodes
      · exact hcodes c hm
    rw [hc] at h
    exact absurd (h.elim id wsgi_ack_smtp_ack) hcode.not_2xx

inductive EnqReach (n : Nat) : EnqState → Prop
  | init : EnqReach n (enqInit n)
  | step {s s' : EnqState} {l : EnqLabel} : EnqReach n s → enqStep n s l = some s' → EnqReach n s'

/-- **No early acknowledgement**: in every reachable state of `Queue.enqueue`'s event order, once a
    reply has been sent no write is pending, and every one of the `n` writes has its result. -/
theorem no_reply_before_writes_complete (n : Nat) (s : EnqState) (h : EnqReach n s) :
    (∀ i, i < n → i ∈ s.pending ∨ ∃ w, (i, w) ∈ s.results) ∧ (s.replied.isSome → s.pending = []) := by
  induction h with
  | init => simp [enqInit]
  | @step s1 s2 l _ hs ih =>
    cases l with
    | writeDone i w =>
      simp only [enqStep] at hs
      split at hs <;> cases hs
      refine ⟨fun j hj => ?_, fun hr => by simp [ih.2 hr]⟩
      by_cases hji : j = i
      · exact .inr ⟨w, hji ▸ List.mem_cons_self⟩
      · exact (ih.1 j hj).imp (fun hp => by simp [List.mem_filter, hp, hji]) fun ⟨w', hw'⟩ => ⟨w', List.mem_cons_of_mem _ hw'⟩
    | reply =>
      simp only [enqStep] at hs
      split at hs <;> cases hs
      rename_i hc
      simp only [Bool.and_eq_true, List.isEmpty_iff] at hc
      exact ⟨ih.1, fun _ => hc.1⟩

/-! ## One `Queue.enqueue` call, end to end: policies, storage writes, the reply, the queue machine

`Model/Ingress.lean` composes the three models an accepted message crosses: `Policy.runPolicies` (C16) produces the envelopes,
every successful `store.write` is a `write` step of the composed queue machine `Model/QueueM.lean` (C01 / C12), and the edge
chooses its reply from the result list (`Model/Edge.lean`). The statements below quantify over every policy chain, every
envelope, every vector of write outcomes AND every history of the queue machine in which the writes of the call have happened
— whatever else the queue did before, in between and after (other enqueues, scheduler turns, attempts, retries, removals). -/
section composed
open Slimta.QM Slimta.Ingress Slimta.Policy
open Slimta.Attempt (Rcpt)
open Slimta.Sched (sIds)

theorem writeLabels_mem (now : Nat) (nn : Bool) {e : Policy.Env} {id : Nat} : ∀ (es : List Policy.Env) (ws : List W),
    (e, W.ok id) ∈ es.zip ws → Label.write id now (rcptsOf e) nn ∈ writeLabels now nn es ws
  | [], _, h => by simp at h
  | _ :: _, [], h => by simp at h
  | _ :: es, w :: ws, h => by
    rcases List.mem_cons.mp h with h | h
    · cases h; exact List.mem_cons_self
    · have ih := writeLabels_mem now nn es ws h
      cases w with
      | ok _ => exact List.mem_cons_of_mem _ ih
      | _ => exact ih

/-- A success reply of either edge means the storage took every envelope the policies produced. -/
theorem ack_means_every_write_ok (c : Call) (hw : WriteErrCodes (c.ws.map W.toWrite))
    (hack : smtpCode c / 100 = 2 ∨ wsgiCode c / 100 = 2) : ∀ w ∈ c.ws, ∃ id, w = .ok id := by
  have h := queue_ack_means_all_written (c.ws.map W.toWrite) hw hack
  intro w hm
  have := h w.toWrite (List.mem_map_of_mem hm)
  cases w with
  | ok id => exact ⟨id, rfl⟩
  | _ => cases this

/-- The policies put no recipient into two envelopes (C16 for an envelope whose recipient positions are distinct, as they are). -/
theorem no_recipient_in_two_envelopes (cfg : Cfg) (ps : List Pol) (e : Policy.Env) (hn : (slots e).Nodup) :
    (slotsOf (runPolicies cfg ps e)).Nodup :=
  (C16.recipients_conserved cfg ps e).nodup_iff.mpr hn

variable {fb : Bool} {pre : List (Nat × Nat)} {rc : Nat → List Rcpt} {nn0 : Nat → Bool} {att : Nat → Nat}

/-- **Acknowledged means in custody, recipient by recipient** (the property, over the composition): for every policy chain,
    envelope and vector of write outcomes (one per envelope the policies produced) — if the SMTP edge answers 2xx or the HTTP edge
    a 2xx status, then in every state of every history of the queue machine in which this call's writes have happened, every
    recipient of the message as the edge received it belongs to a message the storage took in this call, known to the queue
    machine with exactly the recipients of one of the policies' envelopes. -/
theorem ack_means_custody_of_every_recipient (cfg : Cfg) (ps : List Pol) (e : Policy.Env) (ws : List W) (now : Nat)
    (nn relay : Bool)
    (hlen : ws.length = (runPolicies cfg ps e).length)
    (hw : WriteErrCodes (ws.map W.toWrite))
    (hack : smtpCode (call cfg ps e ws now nn relay) / 100 = 2 ∨ wsgiCode (call cfg ps e ws now nn relay) / 100 = 2)
    {q0 q : State} {ls : List Label} (hr : ReachT fb q0 ls q)
    (hdone : ∀ l ∈ writeLabels now nn (runPolicies cfg ps e) ws, l ∈ ls)
    (x : Nat) (hx : x ∈ slots e) :
    ∃ id env, W.ok id ∈ ws ∧ env ∈ runPolicies cfg ps e ∧ x ∈ slots env ∧ q.orig id = some (slots env) ∧ q.nonNull id = nn := by
  have hall := ack_means_every_write_ok (call cfg ps e ws now nn relay) hw hack
  obtain ⟨env, henv, hxe⟩ := List.mem_flatMap.mp ((C16.recipients_conserved cfg ps e).mem_iff.mpr hx)
  -- pair each envelope with what the storage did with it: a write that was taken, under some id
  have henv' : env ∈ ((runPolicies cfg ps e).zip ws).map Prod.fst := by rwa [List.map_fst_zip (Nat.le_of_eq hlen.symm)]
  obtain ⟨⟨env, w⟩, hz, rfl⟩ := List.mem_map.mp henv'
  obtain ⟨id, rfl⟩ := hall w (List.of_mem_zip hz).2
  obtain ⟨ho, hnn, _⟩ := write_recorded hr (hdone _ (writeLabels_mem now nn _ _ hz))
  exact ⟨id, env, (List.of_mem_zip hz).2, henv, hxe, ho, hnn⟩

/-- **… and from then on it is never lost** (C02 ∘ C16 ∘ C01): under the hypotheses above, in every later state of a history that
    began with a queue on a storage holding any messages, every recipient of the acknowledged message is reported delivered, or
    failed for good (and named in a bounce that quotes its reply when bounces are produced), or outstanding in a stored message
    that (as soon as the queue knows it: the guard `id ∈ q.s.known`) has a next step — counted in exactly one of the three. -/
theorem acknowledged_recipient_never_lost (cfg : Cfg) (ps : List Pol) (e : Policy.Env) (ws : List W) (now : Nat)
    (nn relay : Bool)
    (hlen : ws.length = (runPolicies cfg ps e).length)
    (hw : WriteErrCodes (ws.map W.toWrite))
    (hack : smtpCode (call cfg ps e ws now nn relay) / 100 = 2 ∨ wsgiCode (call cfg ps e ws now nn relay) / 100 = 2)
    (hpre : (pre.map (·.1)).Nodup) (hrc : ∀ id ∈ pre.map (·.1), (rc id).Nodup)
    {q : State} {ls : List Label} (hr : ReachT fb (startAt pre rc nn0 att) ls q)
    (hdone : ∀ l ∈ writeLabels now nn (runPolicies cfg ps e) ws, l ∈ ls)
    (x : Nat) (hx : x ∈ slots e) :
    ∃ id, W.ok id ∈ ws ∧
      (q.delivered id).count x + ((q.failed id).map Prod.fst).count x + (outstanding q.s.rem q id).count x = 1 ∧
      (x ∈ q.delivered id ∨
       (∃ rp, (x, rp) ∈ q.failed id ∧ ((fb && nn) = true → ∃ b ∈ q.bounces id, b.reply = rp ∧ x ∈ b.rcpts)) ∨
       (x ∈ outstanding q.s.rem q id ∧ id ∈ sIds q.s ∧ (id ∈ q.s.known → C12.Whereabouts q.s id))) := by
  obtain ⟨id, env, hid, _, hxe, ho, hnn⟩ :=
    ack_means_custody_of_every_recipient cfg ps e ws now nn relay hlen hw hack hr hdone x hx
  exact ⟨id, hid, C01.one_disposition hpre hrc hr.reach id _ ho x hxe, hnn ▸ C01.accepted_never_lost hpre hrc hr.reach id _ ho x hxe⟩

theorem writeLabels_quiet (now : Nat) (nn : Bool) (es : List Policy.Env) (ws : List W) : ∀ l ∈ writeLabels now nn es ws, quiet l := by
  fun_induction writeLabels now nn es ws with
  | case1 _ _ _ _ ih => exact List.forall_mem_cons.mpr ⟨trivial, ih⟩
  | case2 _ _ _ _ _ ih => exact ih
  | case3 => exact fun _ h => nomatch h

theorem handoffLabels_quiet (ws : List W) : ∀ l ∈ handoffLabels ws, quiet l := by
  fun_induction handoffLabels ws with
  | case2 _ _ ih => exact List.forall_mem_cons.mpr ⟨trivial, ih⟩
  | case3 _ _ ih => exact ih
  | _ => exact fun _ h => nomatch h

/-- The labels of an enqueue call ask nothing of the environment (no announcement, no relay answer among them) … -/
theorem labels_quiet (c : Call) : ∀ l ∈ labels c, quiet l := by
  intro l hl
  rcases List.mem_append.mp hl with h | h
  · exact writeLabels_quiet _ _ _ _ l h
  · split at h
    · exact handoffLabels_quiet _ l h
    · cases h

/-- … so a run of the machine over them, from any state a history has reached, is a history: the composed statements above apply
    to `Queue.enqueue` as it runs when nothing else happens in between, with `ls ++ labels c` as the history. -/
theorem enqueue_call_is_a_history {q0 q1 q : State} {ls : List Label} (c : Call) (h : ReachT fb q0 ls q1)
    (hrun : QM.run fb q1 (labels c) = some q) : ReachT fb q0 (ls ++ labels c) q :=
  reachT_of_run (labels c) ls q1 q h (labels_quiet c) hrun

/-! non-vacuity: a message for three recipients in two domains through the domain split, both writes taken, hand-offs made -/
def demoCfg : Cfg := { domKey := fun v => some (v % 2), subn := fun _ v => (v, 0, true) }
def demoEnv : Policy.Env := { eid := 0, sender := 1, body := 2, rcpts := [(0, 10), (1, 11), (2, 12)], hdrs := [] }
def demoCall : Call := call demoCfg [.domainSplit] demoEnv [.ok 7, .ok 8] 0 true true

example : (runPolicies demoCfg [.domainSplit] demoEnv).map slots = [[0, 2], [1]] := by decide
example : smtpCode demoCall = 250 ∧ wsgiCode demoCall = 204 ∧
    labels demoCall = [.write 7 0 [0, 2] true, .write 8 0 [1] true, .activate 7, .activate 8] := by decide
example : ((QM.run true (QM.start [] (fun _ => []) (fun _ => true)) (labels demoCall)).map fun q =>
    (q.orig 7, q.orig 8, q.handed)) = some (some [0, 2], some [1], [(8, [1], 0), (7, [0, 2], 0)]) := by rfl
example : smtpCode (call demoCfg [.domainSplit] demoEnv [.ok 7, .queueError none] 0 true true) = 451 ∧
    wsgiCode (call demoCfg [.domainSplit] demoEnv [.ok 7, .otherExc] 0 true true) = 500 ∧
    labels (call demoCfg [.domainSplit] demoEnv [.otherExc, .ok 8] 0 true true) = [.write 8 0 [1] true] := by decide
/-- the hypotheses of `acknowledged_recipient_never_lost` are met by that run -/
example : ∃ q, ReachT true (QM.start [] (fun _ => []) (fun _ => true)) (labels demoCall) q ∧
    ∀ l ∈ writeLabels 0 true (runPolicies demoCfg [.domainSplit] demoEnv) [.ok 7, .ok 8], l ∈ labels demoCall := by
  have hsome : (QM.run true (QM.start [] (fun _ => []) (fun _ => true)) (labels demoCall)).isSome = true := by rfl
  obtain ⟨q, hq⟩ := Option.isSome_iff_exists.mp hsome
  exact ⟨q, by simpa using enqueue_call_is_a_history demoCall ReachT.init hq, by decide⟩

end composed

section proxyhop
open Slimta.Ingress Slimta.Relay

/-- **A proxied message is acknowledged only if the next hop took it for everybody**: for every behaviour of the next hop, every
    SMTP (not LMTP) relay configuration, at least one recipient, and whatever codes the relay's error objects carry (4xx / 5xx) — if
    the client of the SMTP edge gets a 2xx, or the client of the HTTP edge a 2xx status, the connection was made, the handshake
    completed, and the next hop gave non-error replies to MAIL, to the RCPT of every recipient, to DATA and to the message data. -/
theorem proxy_hop_ack_means_next_hop_accepted (code : Nat → Cls → Nat) (hcode : ∀ i c, ErrCode (code i c))
    (cfg : Relay.Cfg) (hl : cfg.lmtp = false) (s : Script) (hne : s.rcpts ≠ [])
    (hack : smtpSees (proxyHop code cfg s) / 100 = 2 ∨ wsgiSees (proxyHop code cfg s) / 100 = 2) :
    s.connect = .ok ∧ handshake cfg s = none ∧
    (∃ c, s.eod = .code c ∧ isError c = false) ∧ (∃ c, s.data = .code c ∧ isError c = false) ∧
    (∃ c, s.mail = .code c ∧ isError c = false) ∧
    ∀ i, i < s.rcpts.length → ∃ c, s.rcpts[i]? = some (.code c) ∧ isError c = false := by
  unfold proxyHop at hack
  cases hr : attempt cfg s with
  | raised c =>
    rw [hr] at hack
    obtain h | ⟨_, h, _⟩ := proxy_ack_means_all_delivered _ (hcode 0 c) hack <;> cases h
  | table l =>
    rw [hr] at hack
    obtain h | ⟨_, h, hnone⟩ := proxy_ack_means_all_delivered _ (by
      -- the error objects carry `code i c`
      intro c hc
      obtain ⟨⟨cl, i⟩, _, he⟩ := List.mem_map.mp hc
      cases cl <;> cases he <;> exact hcode _ _) hack <;> cases h
    -- no error object for anybody: every class in the relay's table is `ok`
    have hok : ∀ c ∈ l, c = .ok := fun c hc => by
      rw [← List.zipIdx_map_fst 0 l] at hc
      obtain ⟨⟨c, i⟩, hm, rfl⟩ := List.mem_map.mp hc
      have := hnone _ (List.mem_map_of_mem hm)
      cases c with
      | ok => rfl
      | _ => cases this
    have hacc : ∀ i, i < s.rcpts.length → _ := fun i hi =>
      have hi' : i < l.length := C11.attempt_answers_everyone cfg s l hr ▸ hi
      C11.attempt_delivered_only_if_accepted cfg hl s i
        (hr ▸ (List.getElem?_eq_getElem hi').trans (congrArg some (hok _ (List.getElem_mem hi'))))
    obtain ⟨h1, h2, -, h4, h5, h6⟩ := hacc 0 (List.length_pos_iff.mpr hne)
    exact ⟨h1, h2, h4, h5, h6, fun i hi => (hacc i hi).2.2.1⟩

/-- non-vacuity: the second of two recipients refused with 550 → 550 / 500; everybody accepted → 250 / 204 -/
example : smtpSees (proxyHop (fun _ c => if c = .perm then 550 else 450) {} { rcpts := [.code 250, .code 550] }) = 550 ∧
    wsgiSees (proxyHop (fun _ c => if c = .perm then 550 else 450) {} { rcpts := [.code 250, .code 550] }) = 500 ∧
    smtpSees (proxyHop (fun _ c => if c = .perm then 550 else 450) {} { rcpts := [.code 250, .code 250] }) = 250 ∧
    wsgiSees (proxyHop (fun _ c => if c = .perm then 550 else 450) {} { rcpts := [.code 250, .code 250] }) = 204 := by decide

end proxyhop

section httphop
open Slimta.Ingress Slimta.Relay

theorem http_hop_ack {n : Nat} {ws : List Write} {l : List Cls} (h : httpHop n ws = .table l) : wsgiSees (enqueue ws) / 100 = 2 := by
  obtain ⟨st, hdr, ho, hst⟩ := C11.http_delivered_only_on_2xx n _ l h
  -- in both cases of `wsgiResponse` the status is the one the client of the edge sees
  cases he : enqueue ws <;> rw [he] at ho <;> cases ho <;> exact hst

/-- **Delivered over HTTP means in custody on the other side**: for every vector of write outcomes on the receiving host, if the
    HTTP relay on the sending host reports the message delivered (to anybody), every envelope of it was written there. -/
theorem http_hop_delivered_means_custody (n : Nat) (ws : List Write) (hw : WriteErrCodes ws) (l : List Cls)
    (h : httpHop n ws = .table l) : ∀ w ∈ ws, w = .ok :=
  queue_ack_means_all_written ws hw (.inr (http_hop_ack h))

/-- **The class of a failure survives the hop**: a write that fails with a `QueueError` makes the sending relay raise the class of
    the reply the edge chose (4xx: transient — the message is retried, not bounced; 5xx: permanent), and an exception on the
    receiving host (a bare 500) is a transient failure. -/
theorem http_hop_failure_class (n : Nat) (ws : List Write) (hw : WriteErrCodes ws) :
    (∀ rs r, enqueue ws = some rs → firstError rs = some r → httpHop n ws = .raised (factory (replyCode (some r)))) ∧
    (enqueue ws = none → httpHop n ws = .raised .temp) := by
  constructor
  · intro rs r he hf
    have hne : ¬ httpStatus (replyCode (some r)) / 100 = 2 :=
      mt (httpStatus_class _).mp (replyCode_error (enqueue_errcodes ws rs hw he) hf).not_2xx
    simp [httpHop, wsgiResponse, he, httpAttempt, wsgiStatus, smtpReply, hf, hne]
  · intro he
    simp [httpHop, wsgiResponse, he, httpAttempt]

example : httpHop 2 [.ok, .queueError (some 452)] = .raised .temp ∧ httpHop 2 [.ok, .queueError (some 552)] = .raised .perm ∧
    httpHop 2 [.ok, .queueError none] = .raised .temp ∧ httpHop 2 [.ok, .otherExc] = .raised .temp ∧
    httpHop 2 [.ok, .ok] = .table [.ok, .ok] := by decide

end httphop

section smtphop
open Slimta.Relay

/-- What the SMTP edge says to the end of DATA is 250, an error code, or the 421 of an exception: a reply the relay client does not
    take for an error is a 2xx. -/
theorem smtpSees_non_error (ws : List Write) (hw : WriteErrCodes ws) (h : isError (smtpSees (enqueue ws)) = false) :
    smtpSees (enqueue ws) / 100 = 2 := by
  rcases smtpSees_enqueue ws hw with ⟨h250, _⟩ | he
  · rw [h250]
  · have : isError (smtpSees (enqueue ws)) = true := by simpa [isError, ErrCode] using he
    rw [this] at h; cases h

theorem smtp_hop_ack {cfg : Relay.Cfg} (hl : cfg.lmtp = false) {s : Script} {ws : List Write} (hw : WriteErrCodes ws)
    (heod : s.eod = .code (smtpSees (enqueue ws))) {i : Nat} (hi : C11.clsOf (attempt cfg s) i = some .ok) :
    smtpSees (enqueue ws) / 100 = 2 := by
  obtain ⟨_, _, _, ⟨c, hc, hne⟩, _, _⟩ := C11.attempt_delivered_only_if_accepted cfg hl s i hi
  cases heod.symm.trans hc
  exact smtpSees_non_error ws hw hne

/-- **Delivered over SMTP means in custody on the other side**: for every behaviour of the receiving server up to the end of DATA, if
    its reply to the message data is the one the SMTP edge chooses from the enqueue results (`Edge.smtpSees`), then a recipient the
    sending relay reports delivered has its message written on the receiving host — every envelope of it. -/
theorem smtp_hop_delivered_means_custody (cfg : Relay.Cfg) (hl : cfg.lmtp = false) (s : Script) (ws : List Write)
    (hw : WriteErrCodes ws) (heod : s.eod = .code (smtpSees (enqueue ws))) (i : Nat)
    (hi : C11.clsOf (attempt cfg s) i = some .ok) : ∀ w ∈ ws, w = .ok :=
  queue_ack_means_all_written ws hw (.inl (smtp_hop_ack hl hw heod hi))

example : C11.clsOf (attempt {} { rcpts := [.code 250, .code 250], eod := .code (smtpSees (enqueue [.ok, .ok])) }) 1 = some .ok ∧
    C11.clsOf (attempt {} { rcpts := [.code 250, .code 250], eod := .code (smtpSees (enqueue [.ok, .queueError (some 452)])) }) 1 = some .temp := by
  decide

end smtphop

section twohosts
open Slimta.QM Slimta.Ingress Slimta.Policy Slimta.Relay
open Slimta.Attempt (Rcpt)
open Slimta.Sched (sIds)

variable {fb : Bool} {pre : List (Nat × Nat)} {rc : Nat → List Rcpt} {nn0 : Nat → Bool} {att : Nat → Nat}

/-- **A message the sending host's relay reports delivered is never lost by the receiving host's queue**: host A's SMTP relay talks
    to host B's SMTP edge, whose reply to the message data is chosen from B's enqueue results. If A's relay reports some recipient
    delivered, then — in every state of every history of B's queue machine in which the writes of that enqueue call have happened —
    every recipient of the message as B's edge received it is delivered, failed for good (and bounced when bounces are produced) or
    outstanding with (as soon as B's queue knows the message) a next step on B, counted in exactly one of the three. -/
theorem delivered_upstream_never_lost_downstream (rcfg : Relay.Cfg) (hl : rcfg.lmtp = false) (s : Script)
    (cfg : Policy.Cfg) (ps : List Pol) (e : Policy.Env) (ws : List W) (now : Nat) (nn relay : Bool)
    (hlen : ws.length = (runPolicies cfg ps e).length)
    (hw : WriteErrCodes (ws.map W.toWrite))
    (heod : s.eod = .code (smtpCode (call cfg ps e ws now nn relay)))
    (i : Nat) (hi : C11.clsOf (attempt rcfg s) i = some .ok)
    (hpre : (pre.map (·.1)).Nodup) (hrc : ∀ id ∈ pre.map (·.1), (rc id).Nodup)
    {q : State} {ls : List Label} (hr : ReachT fb (startAt pre rc nn0 att) ls q)
    (hdone : ∀ l ∈ writeLabels now nn (runPolicies cfg ps e) ws, l ∈ ls)
    (x : Nat) (hx : x ∈ slots e) :
    ∃ id, W.ok id ∈ ws ∧
      (q.delivered id).count x + ((q.failed id).map Prod.fst).count x + (outstanding q.s.rem q id).count x = 1 ∧
      (x ∈ q.delivered id ∨
       (∃ rp, (x, rp) ∈ q.failed id ∧ ((fb && nn) = true → ∃ b ∈ q.bounces id, b.reply = rp ∧ x ∈ b.rcpts)) ∨
       (x ∈ outstanding q.s.rem q id ∧ id ∈ sIds q.s ∧ (id ∈ q.s.known → C12.Whereabouts q.s id))) :=
  acknowledged_recipient_never_lost cfg ps e ws now nn relay hlen hw (.inl (smtp_hop_ack hl hw heod hi)) hpre hrc hr hdone x hx

/-- … and the same over HTTP: what host A's `HttpRelay` reports delivered to host B's `WsgiEdge` is never lost by B's queue. -/
theorem delivered_over_http_never_lost_downstream (n : Nat) (l : List Cls)
    (cfg : Policy.Cfg) (ps : List Pol) (e : Policy.Env) (ws : List W) (now : Nat) (nn relay : Bool)
    (hlen : ws.length = (runPolicies cfg ps e).length)
    (hw : WriteErrCodes (ws.map W.toWrite))
    (hdel : httpHop n (ws.map W.toWrite) = .table l)
    (hpre : (pre.map (·.1)).Nodup) (hrc : ∀ id ∈ pre.map (·.1), (rc id).Nodup)
    {q : State} {ls : List Label} (hr : ReachT fb (startAt pre rc nn0 att) ls q)
    (hdone : ∀ l ∈ writeLabels now nn (runPolicies cfg ps e) ws, l ∈ ls)
    (x : Nat) (hx : x ∈ slots e) :
    ∃ id, W.ok id ∈ ws ∧
      (q.delivered id).count x + ((q.failed id).map Prod.fst).count x + (outstanding q.s.rem q id).count x = 1 ∧
      (x ∈ q.delivered id ∨
       (∃ rp, (x, rp) ∈ q.failed id ∧ ((fb && nn) = true → ∃ b ∈ q.bounces id, b.reply = rp ∧ x ∈ b.rcpts)) ∨
       (x ∈ outstanding q.s.rem q id ∧ id ∈ sIds q.s ∧ (id ∈ q.s.known → C12.Whereabouts q.s id))) :=
  acknowledged_recipient_never_lost cfg ps e ws now nn relay hlen hw (.inr (http_hop_ack hdel)) hpre hrc hr hdone x hx

end twohosts

example : smtpReply [.id, .queueError none, .id] = 451 ∧ wsgiStatus [.id, .queueError (some 552)] = 500 ∧
    smtpReply [.id, .id] = 250 := by decide
example : proxyEnqueue (.perRcpt [none, some 550, none]) = [.relayError 550] := by decide

end Slimta.C02
