import Proofs.Lemmas.QueueAttempts
import Proofs.C11
/-!
# C01 — accepted mail is never lost: every recipient reaches a final disposition

The ledger of `Model/Attempt.lean`, for every outcome and every history of outcomes: each accepted recipient is exactly one of
reported delivered, failed for good (and named in a bounce, when bounces are produced), still stored for the next attempt. Then
the same in every state of every interleaving of the composed queue machine of `Model/QueueM.lean` (with C12's `never_forgotten`
for "keeps being retried"), the attempt counter the relay and the backoff function see, and that the built-in relays meet the
contract these theorems assume.
-/
namespace Slimta.C01
open Slimta.Attempt

/-- **One attempt conserves the recipients**: every recipient of the message is exactly one of: reported delivered, failed for
    good, still stored. -/
theorem attempt_conservation (cfg : Cfg) (m : Msg) (o : Outcome) (hc : CompleteOutcome m o) (x : Rcpt) :
    (attempt cfg m o).delivered.count x + ((attempt cfg m o).failed.map Prod.fst).count x
      + restCount (attempt cfg m o) x = m.rcpts.count x :=
  QM.phases_eq_attempt cfg m o ▸ QM.compose_count _ m o hc _ x

/-- **The message is removed only when every recipient is final.** -/
theorem removed_only_when_final (cfg : Cfg) (m : Msg) (o : Outcome) (hc : CompleteOutcome m o)
    (hgone : (attempt cfg m o).msg = none) :
    ∀ x ∈ m.rcpts, x ∈ (attempt cfg m o).delivered ∨ x ∈ (attempt cfg m o).failed.map Prod.fst := by
  intro x hx
  have h := attempt_conservation cfg m o hc x
  simp only [restCount, hgone] at h
  have := List.count_pos_iff.mpr hx
  simp only [← List.count_pos_iff]
  omega

/-- **When the backoff stops granting retries nobody is dropped**: the message leaves storage and
    every recipient still outstanding is failed for good (hence bounced: `failed_are_bounced`). -/
theorem exhaustion_fails_everyone (cfg : Cfg) (m : Msg) (o : Outcome) (hc : CompleteOutcome m o)
    (hb : cfg.backoff (m.attempts + 1) = none) :
    (attempt cfg m o).msg = none ∧
    ∀ x ∈ m.rcpts, x ∈ (attempt cfg m o).delivered ∨ x ∈ (attempt cfg m o).failed.map Prod.fst := by
  have hgone : (attempt cfg m o).msg = none := by
    rcases attempt_msg cfg m o with h | ⟨_, w, _, hw, _⟩
    · exact h
    · simp [hb] at hw
  exact ⟨hgone, removed_only_when_final cfg m o hc hgone⟩

/-- **Failed for good ⇒ reported back to the sender** (non-empty sender, a bounce factory that returns a bounce):
    every recipient that failed in the attempt is named in one of its bounces. -/
theorem failed_are_bounced (cfg : Cfg) (hs : cfg.senderNonEmpty = true) (hf : cfg.factoryBounces = true)
    (m : Msg) (o : Outcome) (x : Rcpt) (hx : x ∈ (attempt cfg m o).failed.map Prod.fst) :
    x ∈ (attempt cfg m o).bounces.flatMap (·.rcpts) := by
  obtain ⟨⟨x', r⟩, hp, rfl⟩ := List.mem_map.mp hx
  obtain ⟨b, hb, _, hxb⟩ := (QM.attempt_bok cfg m o).named (by simp [hs, hf]) x' r hp
  exact List.mem_flatMap.mpr ⟨b, hb, hxb⟩

/-- **Whole histories.** Summed over all attempts made so far: delivered + failed + still stored
    = the recipients that were accepted. Nothing is lost and nothing is counted twice. -/
theorem history_conservation (cfg : Cfg) (os : List Outcome) (m : Msg)
    (hv : ValidHistory cfg (some m) os) (x : Rcpt) :
    ((runHistory cfg (some m) os).flatMap (·.delivered)).count x
      + (((runHistory cfg (some m) os).flatMap (·.failed)).map Prod.fst).count x
      + (match finalOf cfg (some m) os with | some f => f.rcpts.count x | none => 0)
      = m.rcpts.count x := by
  induction os generalizing m with
  | nil => simp [runHistory, finalOf]
  | cons o rest ih =>
    obtain ⟨hc, hrest⟩ := hv
    have h1 := attempt_conservation cfg m o hc x
    simp only [runHistory, finalOf, List.flatMap_cons, List.count_append, List.map_append]
    cases hm : (attempt cfg m o).msg with
    | none =>
      simp only [restCount, hm] at h1
      simp [runHistory, finalOf]
      omega
    | some m' =>
      rw [hm] at hrest
      have h2 := ih m' hrest
      simp only [restCount, hm] at h1
      omega

example : (attempt ⟨fun a => if a < 2 then some 0 else none, true, true⟩ ⟨[0, 1, 2], 1⟩
    (.mapping [(0, .ok), (1, .temp 4), (2, .perm 5)])).msg = none := by decide

/-- **Never unscheduled** (the "eventually" half, as a safety statement over the scheduler's
    transition system, calm environment): in every reachable state a stored message the queue knows
    about is being handed off, in flight, finishing (retry / removal pending), waiting for its
    `_dequeue` task, or in the timetable with the scheduler loop due to wake by its time. Together
    with `C12.due_is_dispatched` nothing accepted is ever left without a next step. -/
theorem accepted_never_unscheduled {pre : List (Nat × Nat)} (hpre : (pre.map (·.1)).Nodup) {s : Sched.State}
    (hr : C12.Reach (C12.start pre) s) (id : Nat) (hk : id ∈ s.known) (hs : id ∈ Sched.sIds s) :
    C12.Whereabouts s id :=
  C12.never_forgotten hpre hr id hk hs

/-! ## The composed machine

`Model/QueueM.lean` puts the storage contents, every attempt's envelope, the verdict of `_attempt`, the bounces and the ledger
next to the scheduler state of `Model/Sched.lean`; a step of it IS a step of the scheduler model (`QM.step_sched`) and its
two-phase attempt IS `Attempt.attempt` (`QM.phases_eq_attempt`). The theorems below hold in every state reachable under every
interleaving of its labels in the environment of `QM.calm`: C12's `calm`, and relay answers (any `Outcome`) that answer for the
recipients they were handed. -/
section composed
open Slimta.QM
open Slimta.Sched (sIds)
variable {fb : Bool} {pre : List (Nat × Nat)} {rc : Nat → List Rcpt} {nn : Nat → Bool} {att : Nat → Nat}

/-- **Exactly one disposition, at every moment of every interleaving**: a recipient the queue accepted is counted once in
    {reported delivered, failed for good, outstanding}. -/
theorem one_disposition (hpre : (pre.map (·.1)).Nodup) (hrc : ∀ id ∈ pre.map (·.1), (rc id).Nodup) {q : State}
    (hr : Reach fb (startAt pre rc nn att) q) (id : Nat) (r : List Rcpt) (ho : q.orig id = some r) (x : Rcpt) (hx : x ∈ r) :
    (q.delivered id).count x + ((q.failed id).map Prod.fst).count x + (outstanding q.s.rem q id).count x = 1 := by
  simpa [hx] using (reach_inv hpre hrc hr).count_one ho x

/-- **Accepted mail is never lost** (the property, over the composed machine): every accepted recipient is reported delivered,
    or failed for good — and then, when a bounce is produced at all (non-empty sender, a factory that returns one), named in a
    bounce that quotes its reply —, or it is outstanding in a message that is still in storage and (once this queue knows the
    message) in flight, finishing, dequeuing, being handed off, or in the timetable with the scheduler due to wake by its time. -/
theorem accepted_never_lost (hpre : (pre.map (·.1)).Nodup) (hrc : ∀ id ∈ pre.map (·.1), (rc id).Nodup) {q : State}
    (hr : Reach fb (startAt pre rc nn att) q) (id : Nat) (r : List Rcpt) (ho : q.orig id = some r) (x : Rcpt) (hx : x ∈ r) :
    x ∈ q.delivered id ∨
    (∃ rp, (x, rp) ∈ q.failed id ∧ ((fb && q.nonNull id) = true → ∃ b ∈ q.bounces id, b.reply = rp ∧ x ∈ b.rcpts)) ∨
    (x ∈ outstanding q.s.rem q id ∧ id ∈ sIds q.s ∧ (id ∈ q.s.known → C12.Whereabouts q.s id)) := by
  have h := reach_inv hpre hrc hr
  have h1 := one_disposition hpre hrc hr id r ho x hx
  -- counted once in the three lists together: a member of one of them
  have : x ∈ q.delivered id ∨ x ∈ (q.failed id).map Prod.fst ∨ x ∈ outstanding q.s.rem q id := by
    simp only [← List.count_pos_iff]; omega
  rcases this with hd | hf | hxo
  · exact .inl hd
  · obtain ⟨⟨x', rp⟩, hp, rfl⟩ := List.mem_map.mp hf
    exact .inr (.inl ⟨rp, hp, h.led.bounced id x' rp hp⟩)
  · have hst : id ∈ sIds q.s := by
      cases hm : q.msgs id with
      | none => simp [outstanding, hm] at hxo
      | some m => exact (h.led.stored id).mp (by simp [hm])
    exact .inr (.inr ⟨hxo, hst, fun hk => C12.never_forgotten hpre (reach_sched hr) id hk hst⟩)

/-- **A message leaves storage only when every recipient is final**, whatever was interleaved with its attempts. -/
theorem removed_means_final (hpre : (pre.map (·.1)).Nodup) (hrc : ∀ id ∈ pre.map (·.1), (rc id).Nodup) {q : State}
    (hr : Reach fb (startAt pre rc nn att) q) (id : Nat) (r : List Rcpt) (ho : q.orig id = some r) (hgone : id ∉ sIds q.s)
    (x : Rcpt) (hx : x ∈ r) : x ∈ q.delivered id ∨ x ∈ (q.failed id).map Prod.fst := by
  rcases accepted_never_lost hpre hrc hr id r ho x hx with h | ⟨rp, h, _⟩ | ⟨_, h, _⟩
  · exact Or.inl h
  · exact Or.inr (List.mem_map.mpr ⟨(x, rp), h, rfl⟩)
  · exact absurd h hgone

/-- **The k-th hand-off of a message carries `attempts = k`**: in every reachable state, under every interleaving, the hand-offs of
    a message to the relay — oldest first — were made with the attempt numbers 0, 1, 2, …: no number is skipped, none is used
    twice (it is the number the relay and, incremented, the backoff function see; a counter that lagged or ran ahead would stretch or
    cut the retry schedule). -/
theorem attempt_numbers_count_up (hpre : (pre.map (·.1)).Nodup) (hrc : ∀ id ∈ pre.map (·.1), (rc id).Nodup) {q : State}
    (hr : Reach fb (start pre rc nn) q) (id : Nat) :
    ((q.handed.filter (·.1 == id)).reverse.map (·.2.2)) = List.range (q.handed.filter (·.1 == id)).length := by
  simpa only [hOf, ite_self, Nat.add_zero, List.map_id'] using ((reach_A (att := fun _ => 0) hpre hrc hr).one id).shape

/-- … and the stored counter is the number of hand-offs made, minus the one in progress: what `increment_attempts` will return
    next is always the number of attempts made. -/
theorem stored_attempts_is_handoffs (hpre : (pre.map (·.1)).Nodup) (hrc : ∀ id ∈ pre.map (·.1), (rc id).Nodup) {q : State}
    (hr : Reach fb (start pre rc nn) q) (id : Nat) (m : Msg) (hm : q.msgs id = some m) (hrem : id ∉ q.s.rem) :
    m.attempts + (if id ∈ q.s.inflight ∨ id ∈ q.s.retry then 1 else 0) = (q.handed.filter (·.1 == id)).length :=
  by simpa only [counting, hOf, ite_self, Nat.add_zero] using ((reach_A (att := fun _ => 0) hpre hrc hr).one id).count m hm hrem

/-- **A restarted queue continues the count**: started on a storage that holds the attempt counter `att id` for each message
    (`QM.startAt`), the hand-offs of a message carry `att id`, `att id + 1`, … — the retry schedule picks up where it was. -/
theorem attempt_numbers_continue (att : Nat → Nat) (hpre : (pre.map (·.1)).Nodup) (hrc : ∀ id ∈ pre.map (·.1), (rc id).Nodup)
    {q : State} (hr : Reach fb (startAt pre rc nn att) q) (id : Nat) (hid : id ∈ pre.map (·.1)) :
    ((q.handed.filter (·.1 == id)).reverse.map (·.2.2)) =
      (List.range (q.handed.filter (·.1 == id)).length).map (· + att id) := by
  simpa only [hOf, hid, if_true] using ((reach_A hpre hrc hr).one id).shape

/-- **A message is attempted for the a-th time only if the backoff function allowed it**: in histories where the number on every
    `retry` label is the backoff function's answer for the incremented counter (`QM.obeys`; that number is the due time put in
    storage, so these are the histories whose due times are the raw answers, not clock + answer), every hand-off carries the attempt
    number 0 or an `a` with `bo a ≠ None`; so with a backoff function that gives up from some attempt on, the attempts on a message
    are bounded (`attempts_bounded`). -/
theorem attempts_need_backoff (bo : Nat → Option Nat) (hpre : (pre.map (·.1)).Nodup) (hrc : ∀ id ∈ pre.map (·.1), (rc id).Nodup)
    {q : State} (hr : ReachB fb bo (start pre rc nn) q) : ∀ e ∈ q.handed, e.2.2 = 0 ∨ (bo e.2.2).isSome := by
  simpa only [ite_self] using (reach_B (att := fun _ => 0) hpre hrc hr).handed

/-- … and for a queue restarted on stored counters: every hand-off carries the stored counter of its message or a number the backoff
    function allowed. -/
theorem attempts_need_backoff_after_restart (bo : Nat → Option Nat) (att : Nat → Nat) (hpre : (pre.map (·.1)).Nodup)
    (hrc : ∀ id ∈ pre.map (·.1), (rc id).Nodup) {q : State} (hr : ReachB fb bo (startAt pre rc nn att) q) :
    ∀ e ∈ q.handed, e.2.2 = (if e.1 ∈ pre.map (·.1) then att e.1 else 0) ∨ (bo e.2.2).isSome :=
  (reach_B hpre hrc hr).handed

/-- with a cut-off: no message is handed to the relay more than `N + 1` times -/
theorem attempts_bounded (bo : Nat → Option Nat) (N : Nat) (hN : ∀ a, N < a → bo a = none)
    (hpre : (pre.map (·.1)).Nodup) (hrc : ∀ id ∈ pre.map (·.1), (rc id).Nodup)
    {q : State} (hr : ReachB fb bo (start pre rc nn) q) (id : Nat) : (q.handed.filter (·.1 == id)).length ≤ N + 1 := by
  simpa [hOf] using handoffs_bounded (reach_A (att := fun _ => 0) hpre hrc hr.reach) (reach_B hpre hrc hr) hN id

/-- … and after a restart: a message the storage held with counter `att id` is handed to the relay at most `N + 1 - att id` more
    times (once, if the counter is already beyond the cut-off). -/
theorem attempts_bounded_after_restart (bo : Nat → Option Nat) (N : Nat) (hN : ∀ a, N < a → bo a = none) (att : Nat → Nat)
    (hpre : (pre.map (·.1)).Nodup) (hrc : ∀ id ∈ pre.map (·.1), (rc id).Nodup)
    {q : State} (hr : ReachB fb bo (startAt pre rc nn att) q) (id : Nat) (hid : id ∈ pre.map (·.1)) :
    (q.handed.filter (·.1 == id)).length ≤ max (N + 1 - att id) 1 := by
  simpa only [hOf, hid, if_true] using handoffs_bounded (reach_A hpre hrc hr.reach) (reach_B hpre hrc hr) hN id

/-- non-vacuity: a run with a partial delivery, a retry, a second attempt that is deferred and a backoff that gives up -/
def demoRun : List QM.Label :=
  [.sched, .sleep, .write 1 0 [10, 11, 12] true, .activate 1, .done 1 (.mapping [(12, .ok), (10, .temp 1), (11, .perm 2)]),
   .retry 1 (some 5), .requeue 1, .sched, .sleep, .tick 5, .sched, .dequeue 1 .sched, .sleep,
   .done 1 (.transient 3), .retry 1 none, .remove 1]

example : ((QM.run true (QM.start [] (fun _ => []) (fun _ => true)) demoRun).map fun q =>
    (q.delivered 1, q.failed 1, q.bounces 1, q.handed, q.msgs 1)) =
    some ([12], [(11, 2), (10, 3)], [⟨2, [11], false⟩, ⟨3, [10], true⟩], [(1, [10], 1), (1, [10, 11, 12], 0)], none) := by rfl

example : ((QM.run true (QM.start [] (fun _ => []) (fun _ => true)) demoRun).map fun q =>
    (q.handed.filter (·.1 == 1)).reverse.map (·.2.2)) = some [0, 1] := by rfl

end composed

/-! ## The relay contract is met by the relay models

`accepted_never_lost` assumes that a relay answers for exactly the recipients it was handed (`CompleteOutcome`, the hypothesis in
`QM.calm`). For the built-in relays this is a theorem of C11 (`attempt_answers_everyone`, `pipe_answers_everyone`,
`http_answers_everyone`): a per-recipient result has one entry per recipient, in order; and a result of the right length over
distinct recipients is complete (`sequence_complete`). -/

def toRRes (rp : ReplyId) : Relay.Cls → RRes
  | .ok => .ok
  | .perm => .perm rp
  | .temp => .temp rp

theorem relay_contract_met (cfg : Relay.Cfg) (s : Relay.Script) (l : List Relay.Cls) (h : Relay.attempt cfg s = .table l)
    (m : Msg) (hn : m.rcpts.Nodup) (hs : s.rcpts.length = m.rcpts.length) (rp : ReplyId) :
    CompleteOutcome m (.sequence (l.map (toRRes rp))) :=
  sequence_complete m hn _ (by rw [List.length_map, C11.attempt_answers_everyone cfg s l h, hs])


end Slimta.C01
