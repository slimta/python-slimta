import Proofs.C04
/-!
# C15 — every queue storage backend behaves like the same simple store

The reference store is the `inplace` model (one record per id, recipients deleted in place). The
accumulating representation of disk / redis / cloud (`accum`: indexes appended per round, highest
first, replayed in order by `get`) is proved to refine it for *every* operation sequence, any number
of delivered-marking rounds included. (Indexes out of range are a no-op in both models; the real
code raises `IndexError` there, the queue never produces them, the campaign stays in range.)
-/
namespace Slimta.C15
open Slimta.Store

/-- What a record of the accumulating representation stands for. -/
def absRec (r : Rec) : Rec := { r with rcpts := delSeq r.delivered r.rcpts, delivered := [] }

def absSt (s : St) : St := { recs := s.recs.map fun (i, r) => (i, absRec r), next := s.next }

theorem lookup_map (i : Nat) (l : List (Nat × Rec)) :
    lookup i (l.map fun (j, r) => (j, absRec r)) = (lookup i l).map absRec := by
  induction l with
  | nil => rfl
  | cons p rest ih =>
    obtain ⟨j, r⟩ := p
    simp only [List.map_cons, lookup]
    split <;> simp [ih]

theorem update_map (i : Nat) (f g : Rec → Rec) (h : ∀ r, absRec (f r) = g (absRec r)) (l : List (Nat × Rec)) :
    (update i f l).map (fun (j, r) => (j, absRec r)) = update i g (l.map fun (j, r) => (j, absRec r)) := by
  induction l with
  | nil => rfl
  | cons p rest ih =>
    obtain ⟨j, r⟩ := p
    simp only [List.map_cons, update]
    split <;> simp [ih, h]

theorem erase_map (i : Nat) (l : List (Nat × Rec)) :
    (erase i l).map (fun (j, r) => (j, absRec r)) = erase i (l.map fun (j, r) => (j, absRec r)) := by
  induction l with
  | nil => rfl
  | cons p rest ih =>
    obtain ⟨j, r⟩ := p
    simp only [List.map_cons, erase]
    split <;> simp [ih]

theorem delSeq_append (a b : List Nat) (l : List Nat) : delSeq (a ++ b) l = delSeq b (delSeq a l) := by
  simp [delSeq, List.foldl_append]

theorem lookup_eq_none {i : Nat} {l : List (Nat × Rec)} : lookup i l = none ↔ i ∉ l.map (·.1) := by
  induction l with
  | nil => simp [lookup]
  | cons x rest ih =>
    by_cases h : x.1 = i
    · subst h; simp [lookup]
    · simp [lookup, h, ih, Ne.symm h]

theorem lookup_append (j : Nat) (l l' : List (Nat × Rec)) : lookup j (l ++ l') = (lookup j l).or (lookup j l') := by
  induction l with
  | nil => simp [lookup]
  | cons x rest ih => by_cases h : x.1 = j <;> simp [lookup, h, ih]

theorem lookup_update (i j : Nat) (f : Rec → Rec) (l : List (Nat × Rec)) :
    lookup j (update i f l) = if i = j then (lookup j l).map f else lookup j l := by
  induction l with
  | nil => simp [update, lookup]
  | cons x rest ih =>
    obtain ⟨a, r⟩ := x
    by_cases hi : a = i
    · subst hi; by_cases hj : a = j <;> simp [update, lookup, hj]
    · by_cases hj : a = j
      · subst hj; simp [update, lookup, hi, Ne.symm hi]
      · simp [update, lookup, hi, hj, ih]

theorem lookup_erase_ne {i j : Nat} (h : j ≠ i) (l : List (Nat × Rec)) : lookup j (erase i l) = lookup j l := by
  induction l with
  | nil => rfl
  | cons x rest ih =>
    by_cases hi : x.1 = i <;> by_cases hj : x.1 = j <;> simp_all [erase, lookup]

theorem keys_update (i : Nat) (f : Rec → Rec) (l : List (Nat × Rec)) : (update i f l).map (·.1) = l.map (·.1) := by
  induction l with
  | nil => rfl
  | cons x rest ih => simp only [update]; split <;> simp [ih]

theorem keys_erase (i : Nat) (l : List (Nat × Rec)) : (erase i l).map (·.1) = (l.map (·.1)).erase i := by
  induction l with
  | nil => rfl
  | cons x rest ih => by_cases h : x.1 = i <;> simp [erase, h, ih]

theorem lookup_erase_same {i : Nat} {l : List (Nat × Rec)} (h : (l.map (·.1)).Nodup) : lookup i (erase i l) = none :=
  lookup_eq_none.mpr (keys_erase i l ▸ h.not_mem_erase)

theorem update_absent {i : Nat} (f : Rec → Rec) {l : List (Nat × Rec)} (h : lookup i l = none) : update i f l = l := by
  induction l with
  | nil => rfl
  | cons x rest ih => by_cases hi : x.1 = i <;> simp_all [update, lookup]

/-- What an update operation makes of the record it addresses. -/
def recF (k : Kind) : Op → Rec → Rec
  | .setTs _ ts => fun r => { r with ts := ts }
  | .incr _ => fun r => { r with attempts := r.attempts + 1 }
  | .deliver _ idxs => match k with
    | .inplace => fun r => { r with rcpts := delSeq (sortDesc idxs) r.rcpts }
    | _ => fun r => { r with delivered := r.delivered ++ sortDesc idxs }
  | _ => id

/-- **The table after one operation** (not redis, where an update of an unknown id creates it): an update of an id that is not
    stored is `update` on a table without it, which changes nothing. -/
theorem step_recs (k : Kind) (hk : k ≠ .redis) (s : St) (op : Op) :
    (step k s op).1 = match op with
      | .write sender content rcpts ts => ⟨s.recs ++ [(s.next, ⟨sender, content, rcpts, [], 0, ts, true⟩)], s.next + 1⟩
      | .remove i => { s with recs := erase i s.recs }
      | .setTs i _ | .incr i | .deliver i _ => { s with recs := update i (recF k op) s.recs }
      | _ => s := by
  have hk' : (k == Kind.redis) = false := by cases k <;> simp_all
  cases op with
  | write | remove | load => rfl
  | get i => simp only [step]; (repeat' split) <;> rfl
  | setTs i _ | incr i | deliver i _ =>
    simp only [step]
    cases h : lookup i s.recs with
    | none => simp [hk', update_absent _ h]
    | some r => cases k <;> rfl

theorem absRec_recF (op : Op) (r : Rec) : absRec (recF .accum op r) = recF .inplace op (absRec r) := by
  cases op <;> simp [recF, absRec, delSeq_append]

theorem step_refines (s : St) (op : Op) :
    step .inplace (absSt s) op = (absSt (step .accum s op).1, (step .accum s op).2) := by
  refine Prod.ext ?_ ?_
  · -- the tables: appending, erasing and updating a record commute with `absSt`
    rw [step_recs _ (by decide), step_recs _ (by decide)]
    cases op with
    | write => simp [absSt, absRec, delSeq]
    | remove i => exact congrArg (St.mk · _) (erase_map i s.recs).symm
    | setTs i _ | incr i | deliver i _ => exact congrArg (St.mk · _) (update_map i _ _ (absRec_recF _) s.recs).symm
    | _ => rfl
  · -- the answers: read from what `lookup_map` finds, in fields `absRec` keeps and through `visible`
    cases op with
    | write | remove => rfl
    | load => simp [step, absSt, absRec, List.map_map, Function.comp_def]
    | setTs i _ | incr i | deliver i _ => simp only [step, absSt, lookup_map]; cases lookup i s.recs <;> rfl
    | get i =>
      simp only [step, absSt, lookup_map]
      cases lookup i s.recs with
      | none => rfl
      | some r => by_cases h : r.hasEnv <;> simp [absRec, visible, h]

/-- **Refinement.** For every operation sequence (any number of messages, any number of
    delivered-marking rounds, operations on unknown ids included) the accumulating backends give
    the same answers as the reference store. -/
theorem accum_refines_reference (ops : List Op) (s : St) :
    (run .inplace (absSt s) ops).2 = (run .accum s ops).2 ∧
    (run .inplace (absSt s) ops).1 = absSt (run .accum s ops).1 := by
  induction ops generalizing s with
  | nil => simp [run]
  | cons op rest ih =>
    simp only [run, step_refines s op]
    obtain ⟨h1, h2⟩ := ih (step .accum s op).1
    simp [h1, h2]

/-- Every stored id is below the allocator. -/
def Fresh (s : St) : Prop := ∀ p ∈ s.recs, p.1 < s.next

theorem step_keys (k : Kind) (hk : k ≠ .redis) (s : St) (op : Op) :
    (((step k s op).1.recs.map (·.1)).Sublist (s.recs.map (·.1)) ∧ (step k s op).1.next = s.next) ∨
    ((step k s op).1.recs.map (·.1) = s.recs.map (·.1) ++ [s.next] ∧ (step k s op).1.next = s.next + 1) := by
  rw [step_recs k hk]
  cases op <;> simp [keys_update, keys_erase, List.erase_sublist]

theorem fresh_iff {s : St} : Fresh s ↔ ∀ i ∈ s.recs.map (·.1), i < s.next := by simp only [Fresh, List.forall_mem_map]

theorem fresh_nodup_step (k : Kind) (hk : k ≠ .redis) (s : St) (op : Op) (hf : Fresh s) (hn : (s.recs.map (·.1)).Nodup) :
    Fresh (step k s op).1 ∧ ((step k s op).1.recs.map (·.1)).Nodup := by
  rw [fresh_iff] at hf ⊢
  rcases step_keys k hk s op with ⟨hsub, hnx⟩ | ⟨hkeys, hnx⟩
  · exact ⟨fun i hi => hnx ▸ hf i (hsub.subset hi), hsub.nodup hn⟩
  · rw [hkeys, hnx]
    refine ⟨fun i hi => ?_, List.nodup_append.mpr ⟨hn, by simp, fun a ha b hb => ?_⟩⟩
    · rw [List.mem_append, List.mem_singleton] at hi
      exact hi.elim (fun hi => Nat.lt_succ_of_lt (hf i hi)) (· ▸ Nat.lt_succ_self _)
    · rw [List.mem_singleton] at hb
      exact hb ▸ Nat.ne_of_lt (hf a ha)

theorem lookup_next {s : St} (h : Fresh s) : lookup s.next s.recs = none :=
  lookup_eq_none.mpr fun hm => Nat.lt_irrefl _ (fresh_iff.mp h _ hm)

/-- **Writes return distinct ids**: the id handed out is not the id of any stored message, and no
    later write can hand it out again. -/
theorem write_id_fresh (k : Kind) (s : St) (h : Fresh s) (sender content ts : Nat) (rcpts : List Nat) :
    (step k s (.write sender content rcpts ts)).2 = .id s.next ∧ lookup s.next s.recs = none ∧
    s.next < (step k s (.write sender content rcpts ts)).1.next :=
  ⟨rfl, lookup_next h, Nat.lt_succ_self _⟩

theorem run_fst_cons (k : Kind) (s : St) (op : Op) (ops : List Op) : (run k s (op :: ops)).1 = (run k (step k s op).1 ops).1 :=
  rfl

theorem absent_stays_absent (k : Kind) (hk : k ≠ .redis) (i : Nat) (ops : List Op) (s : St)
    (hi : i < s.next) (ha : i ∉ s.recs.map (·.1)) : i ∉ (run k s ops).1.recs.map (·.1) := by
  induction ops generalizing s with
  | nil => exact ha
  | cons op rest ih =>
    rw [run_fst_cons]
    rcases step_keys k hk s op with ⟨hsub, hn⟩ | ⟨hkeys, hn⟩
    · exact ih _ (hn ▸ hi) fun hm => ha (hsub.subset hm)
    · refine ih _ (hn ▸ Nat.lt_succ_of_lt hi) fun hm => ?_
      rw [hkeys, List.mem_append, List.mem_singleton] at hm
      exact hm.elim ha (Nat.ne_of_lt hi)

/-- **A removed message is gone for good** (reference, disk, cloud): once it is not stored, `get`
    fails and `load` does not list it after any further operations. (`hf` is not used: writes hand out the allocator's value
    only, and the allocator never goes back, whatever else the table holds.) -/
theorem removed_gone_for_good (k : Kind) (hk : k ≠ .redis) (i : Nat) (ops : List Op) (s : St) (hf : Fresh s)
    (hi : i < s.next) (ha : ∀ p ∈ s.recs, p.1 ≠ i) :
    (step k (run k s ops).1 (.get i)).2 = .missing ∧
    ∀ t, (t, i) ∉ (match (step k (run k s ops).1 .load).2 with | .listing l => l | _ => []) := by
  have h := absent_stays_absent k hk i ops s hi fun hm => by
    obtain ⟨p, hp, e⟩ := List.mem_map.mp hm; exact ha p hp e
  refine ⟨by simp [step, lookup_eq_none.mpr h], fun t ht => h ?_⟩
  simp only [step, List.mem_map] at ht ⊢
  obtain ⟨p, hp, e⟩ := ht
  exact ⟨p, hp, (Prod.mk.inj e).2⟩

/-- The message an operation addresses (`write` and `load` address none). -/
def target : Op → Option Nat
  | .setTs i _ | .incr i | .deliver i _ | .get i | .remove i => some i
  | _ => none

/-- **Operations on one message never disturb another**: an operation addressed to message `i`
    leaves the record of every other message `j` exactly as it was (all representations). -/
theorem other_untouched (k : Kind) (s : St) (op : Op) (i j : Nat) (ht : target op = some i) (hne : j ≠ i) :
    lookup j (step k s op).1.recs = lookup j s.recs := by
  have hij : i ≠ j := Ne.symm hne
  cases op <;> simp only [target, Option.some.injEq, reduceCtorEq] at ht <;> subst ht <;> simp only [step]
  case remove => exact lookup_erase_ne hne _
  -- setTs, incr, deliver, get: the table is unchanged, updated at `i`, or (redis) extended by a record for `i`
  all_goals (repeat' split) <;> simp [lookup_update, lookup_append, lookup, hij]

/-- Known finding (negation witness): with redis semantics an update after `remove` brings the id
    back into `load`. -/
theorem redis_update_after_remove_resurrects :
    (run .redis init [.write 1 1 [0] 10, .remove 0, .setTs 0 20, .load]).2
      = [.id 0, .unit, .unit, .listing [(20, 0)]] := by decide

/-! ### non-vacuity -/

example : (run .accum init [.write 1 1 [7, 8, 9] 10, .deliver 0 [0], .deliver 0 [1], .get 0]).2
    = [.id 0, .unit, .unit, .env 1 1 [8] 0] := by decide

example : Fresh init := by intro p hp; simp [init] at hp

/-! ## The disk backend, effect by effect, refines the store model (C04's model ∘ C15's model)

`Model/DiskFS.lean` describes `DiskStorage` as file-system effects (what C04 cuts at every point); `Model/Store.lean` describes
every accumulating backend as a table of records (what C15 and C03 reason about). Run without a crash they are the same store:
after any sequence of complete operations, what a fresh `DiskStorage` recovers from the directories for an id is exactly the
record the store model holds for it. `envOf e`: sender, content and recipients of the envelope pickled with identity `e`. -/
section disk
open Slimta.DiskFS (FS recover)

variable (envOf : Nat → Nat × Nat × List Nat)

def toRec (p : Nat × DiskFS.Meta) : Rec :=
  ⟨(envOf p.1).1, (envOf p.1).2.1, (envOf p.1).2.2, p.2.delivered, p.2.attempts, p.2.ts, true⟩

def toOp : DiskFS.Op → Op
  | .write _ e ts => .write (envOf e).1 (envOf e).2.1 (envOf e).2.2 ts
  | .setTs i ts => .setTs i ts
  | .incr i => .incr i
  | .deliver i l => .deliver i l
  | .remove i => .remove i

/-- The directories and the table hold the same messages. -/
structure Rel (fs : FS) (s : St) : Prop where
  same : ∀ i, (recover fs i).map (toRec envOf) = lookup i s.recs
  fresh : Fresh s
  nodup : (s.recs.map (·.1)).Nodup

/-- A meta update of a message that cannot be recovered (no envelope file, or no meta file) leaves it unrecoverable. -/
theorem exec_meta_missing (fs : FS) (st : C04.Step) (i : Nat)
    (hop : st.op = .setTs i (match st.op with | .setTs _ t => t | _ => 0) ∨ st.op = .incr i ∨
           st.op = .deliver i (match st.op with | .deliver _ l => l | _ => []))
    (hr : recover fs i = none) : recover (C04.exec fs st) i = none := by
  obtain ⟨hm, rfl⟩ := C04.MetaUpd.of_eq hop
  rw [C04.recover_exec_metaUpd fs st hm, hr]; rfl

theorem exec_remove (fs : FS) (k c1 c2 i : Nat) : recover (C04.exec fs ⟨.remove i, k, c1, c2⟩) i = none := by
  rw [← C04.crashAt_of_length_le (n := 2) (by simp [DiskFS.effectsOf])]; exact C04.crash_in_remove fs k c1 c2 i 2 (by omega)

/-- One complete operation of the disk backend is one step of the store model (a `write` gets the id the table hands out next). -/
theorem disk_step_refines (fs : FS) (s : St) (st : C04.Step) (h : Rel envOf fs s)
    (hw : ∀ id e ts, st.op = .write id e ts → id = s.next) :
    Rel envOf (C04.exec fs st) (step .accum s (toOp envOf st.op)).1 := by
  obtain ⟨hf', hn'⟩ := fresh_nodup_step .accum (by decide) s (toOp envOf st.op) h.fresh h.nodup
  refine ⟨fun j => ?_, hf', hn'⟩
  obtain ⟨op, k, c1, c2⟩ := st
  by_cases hj : op.id = j
  · -- the message the operation is about: what is recovered and the record change alike
    subst hj
    have hf (p : Nat × DiskFS.Meta) : toRec envOf (p.1, DiskFS.newMeta p.2 op) = recF .accum (toOp envOf op) (toRec envOf p) := by
      cases op <;> rfl
    rw [step_recs .accum (by decide)]
    cases op with
    | write id e ts =>
      obtain rfl : id = s.next := hw id e ts rfl
      simp only [DiskFS.Op.id, toOp, lookup_append, C04.write_complete, lookup_next h.fresh]
      simp [lookup, toRec]
    | remove i => simp only [DiskFS.Op.id, toOp, exec_remove, lookup_erase_same h.nodup]; rfl
    | setTs i _ | incr i | deliver i _ =>
      rw [C04.recover_exec_metaUpd fs _ (by exact trivial)]
      simp [DiskFS.Op.id, toOp, lookup_update, ← h.same i, Function.comp_def, hf]
  · -- any other message: untouched on both sides
    rw [C04.recover_exec_other fs _ j hj, h.same j]
    cases op with
    | write id e ts =>
      obtain rfl : id = s.next := hw id e ts rfl
      simp [toOp, step, lookup_append, lookup, show s.next ≠ j from hj]
    | _ => exact (other_untouched .accum s _ _ j rfl (Ne.symm hj)).symm

/-- The ids of the writes are the ones the table hands out, in order (uuids in the code; the k-th write is message k here). -/
def SeqIds : Nat → List C04.Step → Prop
  | _, [] => True
  | n, st :: rest =>
    match st.op with
    | .write id _ _ => id = n ∧ SeqIds (n + 1) rest
    | _ => SeqIds n rest

theorem rel_init : Rel envOf [] init :=
  ⟨fun i => by simp [recover, DiskFS.fsGet, init, lookup], by intro p hp; simp [init] at hp, by simp [init]⟩

/-- **The disk backend refines the store model** over every history of complete operations. -/
theorem disk_refines_store (l : List C04.Step) (fs : FS) (s : St) (h : Rel envOf fs s) (hs : SeqIds s.next l) :
    Rel envOf (C04.execAll fs l) (run .accum s (l.map fun st => toOp envOf st.op)).1 := by
  induction l generalizing fs s with
  | nil => simpa [C04.execAll, run] using h
  | cons st rest ih =>
    simp only [C04.execAll, List.foldl_cons, List.map_cons, run_fst_cons]
    refine ih _ _ (disk_step_refines envOf fs s st h fun id e ts hop => ?_) ?_
    · simp only [SeqIds, hop] at hs
      exact hs.1
    · rw [step_recs .accum (by decide)]
      obtain ⟨op, k, c1, c2⟩ := st
      cases op <;> simp only [SeqIds] at hs
      case write => exact hs.2
      all_goals exact hs  -- no other operation moves the allocator

/-- **What a fresh `DiskStorage` shows for a message is what the reference store shows** (C04's model ∘ C15 ∘ C03): after every
    history of complete disk operations (its writes numbered in order, `SeqIds`), for every id, the recipients `get` returns from
    the directories — the pickled envelope's recipients with the accumulated delivered indexes replayed — the attempt counter and
    the due time are those of the in-place reference store after the same operations; an id is recoverable from the directories
    exactly when the reference store has it. -/
theorem disk_get_is_reference_get (l : List C04.Step) (hs : SeqIds 0 l) (i : Nat) :
    (recover (C04.execAll [] l) i).map (fun p => (delSeq p.2.delivered (envOf p.1).2.2, p.2.attempts, p.2.ts)) =
    (lookup i (run .inplace init (l.map fun st => toOp envOf st.op)).1.recs).map (fun r => (r.rcpts, r.attempts, r.ts)) := by
  have hrel := disk_refines_store envOf l [] init (rel_init envOf) hs
  -- `absSt init` is `init` by definition
  rw [show (run .inplace init _).1 = _ from (accum_refines_reference (l.map fun st => toOp envOf st.op) init).2]
  simp only [absSt, lookup_map, ← hrel.same i, Option.map_map]
  cases recover (C04.execAll [] l) i with
  | none => rfl
  | some p => simp [toRec, absRec]

/-- non-vacuity: two messages; the first gets two delivered rounds (positions of the recipient list as it stands), an attempt
    and a new due time; the second is removed -/
def demoEnvOf : Nat → Nat × Nat × List Nat := fun e => (1, 2, if e = 9 then [10, 11, 12, 13] else [20])
def demoDisk : List C04.Step := [⟨.write 0 9 100, 0, 2, 1⟩, ⟨.write 1 8 100, 2, 1, 1⟩, ⟨.deliver 0 [0, 2], 4, 1, 0⟩, ⟨.incr 0, 6, 1, 0⟩,
  ⟨.deliver 0 [1], 8, 1, 0⟩, ⟨.setTs 0 300, 10, 1, 0⟩, ⟨.remove 1, 0, 0, 0⟩]
example : SeqIds 0 demoDisk := by simp [SeqIds, demoDisk]
example : (recover (C04.execAll [] demoDisk) 0).map (fun p => (delSeq p.2.delivered (demoEnvOf p.1).2.2, p.2.attempts, p.2.ts))
      = some ([11], 1, 300) ∧ recover (C04.execAll [] demoDisk) 1 = none := by decide

end disk

end Slimta.C15
