import Proofs.C15
/-!
# C03 — settled recipients are never attempted again; one attempt in flight per message

Over *every* history of delivery attempts — any number of rounds, any number of recipients, any mixture of outcomes, any
backoff — a recipient the relay reported delivered or permanently failed is in no later attempt; the storage side (indexes
reported per round against the list of the last `get`) is C15's `accum_refines_reference`. A single attempt in flight under all
interleavings of the scheduler's transition system (`Model/Sched.lean`) is C12's `one_attempt_in_flight`. Both are then carried
to the composed machine of `Model/QueueM.lean`, and across a restart on what the disk storage recovers (C04).
-/
namespace Slimta.C03
open Slimta.Attempt

/-- **A settled recipient is in no later attempt.** At any point of any valid history: whoever the
    attempt just made reported delivered or failed for good is absent from the recipient list of
    every later attempt of that message. -/
theorem settled_never_attempted_again (cfg : Cfg) (m : Msg) (o : Outcome) (os : List Outcome)
    (hv : ValidHistory cfg (some m) (o :: os)) (x : Rcpt)
    (hx : x ∈ (attempt cfg m o).delivered ∨ x ∈ (attempt cfg m o).failed.map Prod.fst) :
    ∀ l ∈ pres cfg (attempt cfg m o).msg os, x ∉ l := by
  intro l hl hxl
  cases hm : (attempt cfg m o).msg with
  | none => simp [hm, pres] at hl
  | some m' =>
    rw [hm] at hl
    -- `x` would be counted twice on the left of the conservation equation, and once at most on the right
    have hcons := C01.attempt_conservation cfg m o hv.1 x
    have hle := List.nodup_iff_count.mp hv.1.nodup x
    have h1 := List.count_pos_iff.mpr (pres_subset cfg os m' l hl x hxl)
    simp only [restCount, hm] at hcons
    simp only [← List.count_pos_iff] at hx
    omega

/-- The next attempt is made for exactly the recipients that were only transiently refused. -/
theorem next_attempt_is_the_unsettled (cfg : Cfg) (m : Msg) (res : List (Rcpt × RRes)) (hc : Complete m res)
    (m' : Msg) (h : (attempt cfg m (.mapping res)).msg = some m') :
    m'.rcpts = m.rcpts.filter (fun x => !(settledOf res).contains x) := by
  rcases attempt_msg cfg m (.mapping res) with h0 | ⟨pd, w, hp, _, h1⟩
  · simp [h0] at h
  · cases h.symm.trans h1
    cases QM.partial1_pend hp
    exact remaining_rcpts m res hc

/-- **Index agreement over any number of rounds**: the accumulating storage representation (disk,
    redis, cloud) returns after every sequence of operations, delivered-marking rounds included,
    what the reference store returns. -/
theorem index_agreement (ops : List Store.Op) :
    (Store.run .accum Store.init ops).2 = (Store.run .inplace Store.init ops).2 :=
  (C15.accum_refines_reference ops Store.init).1.symm   -- `absSt init` is `init` by definition

example : ValidHistory ⟨fun _ => some 0, true, true⟩ (some ⟨[0, 1, 2], 0⟩)
    [.mapping [(2, .ok), (0, .temp 1), (1, .temp 1)]] := by
  refine ⟨⟨by decide, by decide, ?_⟩, ?_⟩
  · intro x; simp; constructor <;> (intro h; rcases h with h | h | h <;> simp [h])
  · cases h : (attempt ⟨fun _ => some 0, true, true⟩ ⟨[0, 1, 2], 0⟩
      (.mapping [(2, .ok), (0, .temp 1), (1, .temp 1)])).msg <;> simp [ValidHistory]

example : pres ⟨fun _ => some 0, true, true⟩ (some ⟨[0, 1, 2], 0⟩)
    [.mapping [(2, .ok), (0, .temp 1), (1, .temp 1)], .mapping [(1, .perm 2), (0, .temp 1)], .success]
    = [[0, 1, 2], [0, 1], [0]] := by decide

/-- **One attempt in flight per message, under every interleaving** of enqueue, storage
    announcements, clock ticks, scheduler turns, `_dequeue` tasks, relay outcomes, retries, removals
    and flushes (calm environment, see `Proofs/C12.lean`): the attempts in flight are pairwise
    different messages, and a message in flight has neither a timetable entry nor a pending
    `_dequeue` task that could start a second one. -/
theorem one_attempt_in_flight_per_message {pre : List (Nat × Nat)} (hpre : (pre.map (·.1)).Nodup) {s : Sched.State}
    (hr : C12.Reach (C12.start pre) s) :
    s.inflight.Nodup ∧ ∀ id ∈ s.inflight, (∀ t, (t, id) ∉ s.queued) ∧ id ∉ Sched.dIds s :=
  C12.one_attempt_in_flight hpre hr

section composed
open Slimta.QM
variable {fb : Bool} {pre : List (Nat × Nat)} {rc : Nat → List Rcpt} {nn : Nat → Bool} {att : Nat → Nat}

/-- The two theorems on hand-offs below, from the invariant alone: a step that adds to `handed` hands over a stored message that is
    in none of the working lists. -/
theorem handoff_cases {q q' : State} {l : Label} (h : Inv fb q) (hs : step fb q l = some q') :
    q'.handed = q.handed ∨ ∃ id rs a r, q'.handed = (id, rs, a) :: q.handed ∧ rs = outstanding q.s.rem q id ∧
      q'.orig id = some r ∧ ∀ x ∈ rs, x ∈ r ∧ x ∉ q.delivered id ∧ x ∉ (q.failed id).map Prod.fst := by
  cases step_eff hs with
  | @handoff _ id m _ _ _ _ _ hna hm _ =>
    replace hm := handoff_msg h hm
    -- in none of the working lists: what the storage holds is who is outstanding
    obtain ⟨-, n2, n3, n4⟩ := idle_of_not_active h.sched hna
    have hout : outstanding q.s.rem q id = m.rcpts := by simp [outstanding, n4, hm, pend_none h n2 n3]
    obtain ⟨r, ho⟩ := Option.isSome_iff_exists.mp (h.led.orig id ((h.led.stored id).mp (by simp [hm])))
    refine .inr ⟨id, _, _, r, rfl, hout.symm, ho, fun x hx => ?_⟩
    -- the ledger counts `x` once in the three lists together, and it is among the outstanding
    have hl := hout ▸ h.count_one ho x
    have := List.count_pos_iff.mpr hx
    rw [← List.count_eq_zero, ← List.count_eq_zero]
    by_cases hxr : x ∈ r
    · rw [if_pos hxr] at hl; exact ⟨hxr, by omega⟩
    · rw [if_neg hxr] at hl; omega
  | _ => exact .inl rfl

/-- **Every hand-off is for exactly the unsettled recipients**, under every interleaving: whenever a step of the composed machine
    hands message `id` to the relay (enqueue's own hand-off or a `_dequeue` task, whatever caused it), the recipients of that
    attempt are the ones outstanding at that moment, and none of them has been reported delivered or failed for good before. -/
theorem handoff_is_for_the_unsettled (hpre : (pre.map (·.1)).Nodup) (hrc : ∀ id ∈ pre.map (·.1), (rc id).Nodup) {q q' : State}
    (hr : Reach fb (startAt pre rc nn att) q) {l : Label} (hc : calm q l) (hs : step fb q l = some q')
    (id : Nat) (rs : List Rcpt) (a : Nat) (hnew : q'.handed = (id, rs, a) :: q.handed) :
    rs = outstanding q.s.rem q id ∧ ∀ x ∈ rs, x ∉ q.delivered id ∧ x ∉ (q.failed id).map Prod.fst := by
  rcases handoff_cases (reach_inv hpre hrc hr) hs with e | ⟨_, _, _, _, e, hrs, _, hall⟩
  · exact absurd (hnew.symm.trans e) (List.cons_ne_self _ _)
  · cases hnew.symm.trans e
    exact ⟨hrs, fun x hx => (hall x hx).2⟩

/-- **One attempt in flight per message** in the composed machine too: its scheduler component runs the scheduler model
    (`QM.reach_sched`). -/
theorem one_attempt_in_flight_composed (hpre : (pre.map (·.1)).Nodup) {q : QM.State} (hr : QM.Reach fb (QM.startAt pre rc nn att) q) :
    q.s.inflight.Nodup ∧ ∀ id ∈ q.s.inflight, (∀ t, (t, id) ∉ q.s.queued) ∧ id ∉ Sched.dIds q.s :=
  C12.one_attempt_in_flight hpre (QM.reach_sched hr)

theorem step_handed {q q' : State} {l : Label} (hs : step fb q l = some q') :
    q'.handed = q.handed ∨ ∃ id rs a, q'.handed = (id, rs, a) :: q.handed := by
  cases step_eff hs with
  | handoff => exact Or.inr ⟨_, _, _, rfl⟩
  | _ => exact Or.inl rfl

/-- **Nobody is ever attempted who was not accepted for that message** — in particular nobody a restarted queue found marked
    delivered (`C04.restarted_queue_never_loses` starts the machine on the recipients not yet marked): in every reachable state every
    hand-off made so far, of any message, was for recipients among those the message was accepted with. -/
theorem handed_within_accepted (hpre : (pre.map (·.1)).Nodup) (hrc : ∀ id ∈ pre.map (·.1), (rc id).Nodup) {q : State}
    (hr : Reach fb (startAt pre rc nn att) q) : ∀ e ∈ q.handed, ∃ r, q.orig e.1 = some r ∧ ∀ x ∈ e.2.1, x ∈ r := by
  induction hr with
  | init => exact fun e he => absurd he List.not_mem_nil
  | @step q q' l hprev hc hs ih =>
    -- the earlier hand-offs were of known ids, and what a known id was accepted with is not rewritten
    have old : ∀ e ∈ q.handed, ∃ r, q'.orig e.1 = some r ∧ ∀ x ∈ e.2.1, x ∈ r := fun e he =>
      have ⟨r, ho, hsub⟩ := ih e he
      ⟨r, (step_orig_seen hs (Or.inr ((reach_A hpre hrc hprev).knownH e he))).1.trans ho, hsub⟩
    intro e he
    rcases handoff_cases (reach_inv hpre hrc hprev) hs with hh | ⟨_, _, _, r, hh, _, ho, hall⟩ <;> rw [hh] at he
    · exact old e he
    · rcases List.mem_cons.mp he with rfl | he
      · exact ⟨r, ho, fun x hx => (hall x hx).1⟩
      · exact old e he

/-- **After a restart nobody the storage shows as delivered is attempted again** (C03 ∘ C04): start the queue machine on what a fresh
    `DiskStorage` recovers from any directories (`C04.loadOf`, `C04.rcptsOf`: the pickled recipients with the delivered rounds
    replayed; `C04.attOf`: the stored attempt counters). In every state the restarted queue reaches, every hand-off of a recovered
    message is for recipients the storage still listed — a recipient whose delivery was recorded before the crash is in none of them. -/
theorem restart_never_reattempts_delivered (fs : DiskFS.FS) (ids : List Nat) (hnd : ids.Nodup) (envOf : Nat → List Nat)
    (henv : ∀ e, (envOf e).Nodup) (id : Nat) (hid : id ∈ (C04.loadOf fs ids).map (·.1)) {q : State}
    (hr : Reach fb (startAt (C04.loadOf fs ids) (C04.rcptsOf envOf fs) nn (C04.attOf fs)) q) :
    ∀ e ∈ q.handed, e.1 = id → ∀ x ∈ e.2.1, x ∈ C04.rcptsOf envOf fs id := by
  have hpre := C04.loadOf_nodup fs ids hnd
  have hrc := fun i (_ : i ∈ (C04.loadOf fs ids).map (·.1)) => C04.rcptsOf_nodup henv fs i
  intro e he heid x hx
  obtain ⟨r, ho, hsub⟩ := handed_within_accepted hpre hrc hr e he
  rw [heid, reach_orig_pre hpre hrc hr hid] at ho
  cases ho
  exact hsub x hx

end composed

end Slimta.C03
