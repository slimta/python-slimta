import Proofs.Lemmas.Pool
import Proofs.Lemmas.RelaySession
/-!
# C19 — relay connection pools stay within bounds and strand no request

Theorems over `Model/Pool.lean`: the `BlockingDeque` (semaphore = length for every operation
sequence) and the pool transition system (every interleaving of attempts, polls, wake-ups, idle
expiries, completions, failures, re-queues and link callbacks); and over `Model/RelaySession.lean`
(the commands a relay client writes over one connection, for every behaviour of the peer): a reused
connection carries one message at a time and a failed transaction is reset before the next message uses it.
-/
namespace Slimta.C19
open Slimta.Pool

def DInv (d : BDeque) : Prop := d.sema = d.items.length

theorem deque_step_inv (d : BDeque) (op : DOp) (h : DInv d) : DInv (d.step op).1 := by
  -- with the length written for the semaphore, `sema = 0` reads `items = []` and every operation computes
  obtain ⟨items, sema⟩ := d
  obtain rfl : sema = items.length := h
  cases op with
  | pop => rcases List.eq_nil_or_concat items with rfl | ⟨l, x, rfl⟩ <;> simp [DInv, BDeque.step]
  | popleft => cases items <;> simp [DInv, BDeque.step]
  | remove x =>
    by_cases hx : x ∈ items
    · simp [DInv, BDeque.step, hx, List.ne_nil_of_mem hx, List.length_erase_of_mem hx]
    · simp [DInv, BDeque.step, hx]
  | _ => simp [DInv, BDeque.step] <;> omega

/-- **The semaphore counts the items**, after every sequence of operations. -/
theorem deque_sema_eq_length (ops : List DOp) : DInv (BDeque.run {} ops) := by
  suffices ∀ d, DInv d → DInv (BDeque.run d ops) from this {} rfl
  induction ops with
  | nil => intro d h; exact h
  | cons op ops ih => intro d h; exact ih _ (deque_step_inv d op h)

/-- A pop never finds the deque empty behind the semaphore, and blocks exactly when it is empty. -/
theorem deque_pop_sound (ops : List DOp) (op : DOp) (hop : op = .pop ∨ op = .popleft) :
    let d := BDeque.run {} ops
    ((d.step op).2 ≠ .indexError) ∧ ((d.step op).2 = .wouldBlock ↔ d.items = []) := by
  have h := deque_sema_eq_length ops
  generalize BDeque.run {} ops = d at h
  obtain ⟨items, sema⟩ := d
  obtain rfl : sema = items.length := h
  rcases hop with rfl | rfl
  · rcases List.eq_nil_or_concat items with rfl | ⟨l, x, rfl⟩ <;> simp [BDeque.step]
  · cases items <;> simp [BDeque.step]

structure Inv (s : State) : Prop where
  /-- never more clients than `pool_size` -/
  bound : s.size ≠ 0 → s.clients.length ≤ s.size
  /-- every request is in exactly one place: waiting, held by one client, or answered -/
  cons : ∀ r, s.attempted.count r = s.queue.count r + held r s.clients + s.resulted.count r
  nodup : s.attempted.Nodup
  /-- a waiting request always has a client in the pool -/
  served : s.queue ≠ [] → s.clients ≠ []

theorem inv_init (size : Nat) (reuse pers : Bool) : Inv (init size reuse pers) :=
  ⟨by simp [init], by simp [init, held], by simp [init], by simp [init]⟩

theorem inv_set {s : State} (h : Inv s) {c : Nat} {old : CSt} (hget : s.clients[c]? = some old) (st : CSt) (q res : List Nat)
    (hmove : ∀ r, q.count r + (if st.holds r then 1 else 0) + res.count r =
      s.queue.count r + (if old.holds r then 1 else 0) + s.resulted.count r) :
    Inv (setSt { s with queue := q, resulted := res } c st) := by
  refine ⟨by simpa [setSt] using h.bound, fun r => ?_, h.nodup, fun _ hcl => ?_⟩
  · have := h.cons r; have := held_set (r := r) (st := st) hget; have := hmove r
    simp only [setSt]; omega
  · have : s.clients = [] := (List.set_eq_nil_iff c st).mp hcl
    simp [this] at hget

theorem inv_checkIdle {s : State} (h : Inv s) : Inv (checkIdle s) ∧ (checkIdle s).clients ≠ [] := by
  unfold checkIdle
  split
  · exact ⟨h, by rintro hc; simp_all⟩
  split
  · rename_i hlt
    exact ⟨⟨fun (hs : s.size ≠ 0) => by simpa [addClient, hs, Nat.lt_iff_add_one_le] using hlt,
      fun r => by simpa [addClient, held, List.countP_append, CSt.holds] using h.cons r, h.nodup, fun _ => by simp [addClient]⟩,
      by simp [addClient]⟩
  · -- the pool is full, and a bound of 0 means none: it is not empty
    rename_i hany hlt
    exact ⟨h, by rintro hc; simp [hc] at hlt⟩

theorem inv_step (rf : Bool) (s s' : State) (l : Label) (h : Inv s) (hs : step rf s l = some s') : Inv s' := by
  cases step_cases hs with
  | attempt hr =>
    obtain ⟨h1, hne⟩ := inv_checkIdle h
    have hatt : (checkIdle s).attempted = s.attempted := by rw [checkIdle_eq]
    refine ⟨h1.bound, fun r' => ?_, List.nodup_cons.mpr ⟨hatt ▸ hr, h1.nodup⟩, fun _ => hne⟩
    have := h1.cons r'
    simp only [List.count_cons, List.count_append, List.count_nil]; omega
  | client hget hm =>
    -- one client changes state and at most one request moves between the queue, that client and the results: `inv_set`, whose
    -- `hmove`, that the move keeps the count of every request, is a computation for each kind of move
    refine inv_set h hget _ _ _ fun r' => ?_
    cases hm <;> simp [*, CSt.holds, List.count_cons] <;> omega
  | unlink hget hre =>
    -- the client leaves; it held nothing
    exact ⟨fun hs => Nat.le_trans (List.length_eraseIdx_le _ _) (h.bound hs),
      fun r => by simpa [held_eraseIdx_exiting hget] using h.cons r, h.nodup, hre⟩
  | respawn hcl =>
    exact ⟨fun hs => by simpa [hcl] using h.bound hs, fun r => by simpa [hcl, held, CSt.holds] using h.cons r, h.nodup, fun _ => by simp⟩

theorem inv_run (rf : Bool) (s s' : State) (ls : List Label) (h : Inv s) (hr : run rf s ls = some s') : Inv s' :=
  run_preserves (inv_step rf) ls s s' h hr

theorem reachable_inv (rf : Bool) (size : Nat) (reuse pers : Bool) (ls : List Label) (s : State)
    (hr : run rf (init size reuse pers) ls = some s) : Inv s :=
  inv_run rf _ _ ls (inv_init size reuse pers) hr

/-- **Bound**: a pool of size `n ≥ 1` never holds more than `n` clients, whatever happens. -/
theorem pool_bounded (rf : Bool) (size : Nat) (reuse pers : Bool) (ls : List Label) (s : State) (hsz : size ≠ 0)
    (hr : run rf (init size reuse pers) ls = some s) : s.clients.length ≤ size := by
  have hsize : s.size = size :=
    run_preserves (P := fun s => s.size = size) (fun _ _ _ h hs => (step_size hs).trans h) ls _ _ rfl hr
  exact hsize ▸ (reachable_inv rf size reuse pers ls s hr).bound (hsize ▸ hsz)

/-- **Nothing lost, nothing duplicated**: every request ever attempted is, in every reachable
    state, in exactly one place — waiting in the queue once, held by exactly one client, or
    answered once. -/
theorem request_in_one_place (rf : Bool) (size : Nat) (reuse pers : Bool) (ls : List Label) (s : State)
    (hr : run rf (init size reuse pers) ls = some s) (r : Nat) (ha : r ∈ s.attempted) :
    s.queue.count r + held r s.clients + s.resulted.count r = 1 := by
  have hi := reachable_inv rf size reuse pers ls s hr
  rw [← hi.cons r, hi.nodup.count, if_pos ha]

/-- A request that was never attempted is nowhere. -/
theorem no_phantom_request (rf : Bool) (size : Nat) (reuse pers : Bool) (ls : List Label) (s : State)
    (hr : run rf (init size reuse pers) ls = some s) (r : Nat) (ha : r ∉ s.attempted) :
    r ∉ s.queue ∧ held r s.clients = 0 ∧ r ∉ s.resulted := by
  have := (reachable_inv rf size reuse pers ls s hr).cons r
  rw [List.count_eq_zero_of_not_mem ha] at this
  exact ⟨List.count_eq_zero.mp (by omega), by omega, List.count_eq_zero.mp (by omega)⟩

/-- The labels that need nobody outside the pool: no new attempt, no timer, no connection fault. -/
def Label.internal : Label → Bool
  | .poll _ | .wake _ | .finish _ | .unlink _ => true
  | _ => false

/-- **No stranding**: in every reachable state in which a request waits, some client exists and
    a step of the pool itself is enabled (a client polls, wakes up, completes, or is unlinked —
    which respawns a client if it was the last): the pool is never stuck with work in the queue. -/
theorem no_stranding (rf : Bool) (size : Nat) (reuse pers : Bool) (ls : List Label) (s : State)
    (hr : run rf (init size reuse pers) ls = some s) (hq : s.queue ≠ []) :
    ∃ l, Label.internal l = true ∧ (step rf s l).isSome = true := by
  obtain ⟨c0, rest, hc⟩ := List.exists_cons_of_ne_nil ((reachable_inv rf size reuse pers ls s hr).served hq)
  obtain ⟨r, q, hq'⟩ := List.exists_cons_of_ne_nil hq
  cases c0 with
  | ready ru => exact ⟨.poll 0, rfl, by simp [step, hc, hq']⟩
  | idle ru => exact ⟨.wake 0, rfl, by simp [step, hc, hq']⟩
  | busy r' ru => exact ⟨.finish 0, rfl, by simp [step, hc]⟩
  | exiting => exact ⟨.unlink 0, rfl, by simp [step, hc]⟩

theorem busy_can_finish (rf : Bool) (s : State) (c r : Nat) (ru : Bool) (h : s.clients[c]? = some (.busy r ru)) :
    ∃ s', step rf s (.finish c) = some s' ∧ r ∈ s'.resulted := by
  simp [step, h, setSt]

/-- weights of the termination measure (a busy client also carries its unanswered request) -/
def wt : CSt → Nat
  | .ready false => 3
  | .ready true => 7
  | .idle false => 2
  | .idle true => 6
  | .busy _ false => 25
  | .busy _ true => 35
  | .exiting => 1

/-- the last client is on its way out while a request waits: the link callback will respawn one -/
def respawnDue (s : State) : Bool := !s.queue.isEmpty && !s.clients.isEmpty && s.clients.all CSt.isExiting

def mu (s : State) : Nat := 30 * s.queue.length + sumW wt s.clients + (if respawnDue s then 3 else 0)

/-- the steps the pool takes by itself or that answer / give back a request: no new attempt, no idle
    timer, no connection fault between two messages -/
def Label.progress : Label → Bool
  | .poll _ | .wake _ | .finish _ | .fail _ | .requeue _ | .unlink _ => true
  | _ => false

theorem respawnDue_le (s : State) : (if respawnDue s then 3 else 0) ≤ 3 := by split <;> omega

/-- The measure's side of `inv_set`, for a client that is not on its way out; the 3 in `hlt` is what a respawn may come to cost
    when `st` is `exiting`. -/
theorem mu_set_lt {s : State} {c : Nat} {old : CSt} (hget : s.clients[c]? = some old) (hold : old.isExiting = false)
    (st : CSt) (q res : List Nat)
    (hlt : 30 * q.length + wt st + (if st.isExiting then 3 else 0) < 30 * s.queue.length + wt old) :
    mu (setSt { s with queue := q, resulted := res } c st) < mu s := by
  have hw := sumW_set wt (st := st) hget
  have hs : respawnDue s = false := by simp [respawnDue, all_false_of_getElem hget hold]
  have hs' : (if respawnDue (setSt { s with queue := q, resulted := res } c st) then 3 else 0) ≤
      if st.isExiting then 3 else 0 := by
    cases hst : st.isExiting
    · simp [respawnDue, setSt, all_false_of_getElem (List.getElem?_set_self (List.getElem?_eq_some_iff.mp hget).1) hst]
    · exact respawnDue_le _
  simp only [mu, hs] at hs' ⊢
  simp only [setSt] at hs' ⊢
  omega

/-- **Every progress step strictly decreases the measure** (a fresh connection never puts its
    request back: `requeueFresh = false`, the repaired code). -/
theorem measure_decreases (s s' : State) (l : Label) (hl : Label.progress l = true) (hs : step false s l = some s') :
    mu s' < mu s := by
  cases step_cases hs with
  | attempt => cases hl
  | client hget hm =>
    -- as in `inv_step`, with `mu_set_lt`, whose `hlt` compares weights: 30 for a waiting request, `wt` for the client before and after
    cases hm with
    | expireAgain | expire | drop => cases hl
    | requeue hru =>
      -- only a connection that has delivered gives its request back: 35 against 30 + 1 + 3
      obtain rfl := (Bool.or_false _).symm.trans hru
      exact mu_set_lt hget rfl _ _ _ (by simp [wt, CSt.isExiting]; omega)
    | _ =>
      refine mu_set_lt hget rfl _ _ _ ?_
      cases ‹Bool› <;> simp [*, wt, CSt.isExiting] <;> omega
  | @unlink c hget =>
    -- the client's weight goes, and a respawn is due afterwards only if it was before
    have hw := sumW_eraseIdx wt hget
    have hd : respawnDue { s with clients := s.clients.eraseIdx c } = true → respawnDue s = true := by
      simp only [respawnDue, all_eraseIdx_exiting hget, Bool.and_eq_true, Bool.not_eq_true', List.isEmpty_eq_false_iff]
      exact fun h => ⟨⟨h.1.1, fun hn => by simp [hn] at hget⟩, h.2⟩
    simp only [mu, wt] at hw ⊢
    split
    · rw [if_pos (hd ‹_›)]; omega
    · omega
  | respawn hcl hq =>
    -- `exiting` with a respawn due becomes `ready false`
    simp [mu, respawnDue, hcl, hq, sumW, wt, CSt.isExiting]

def runProgress (s : State) : List Label → Option State
  | [] => some s
  | l :: ls => if Label.progress l then
      match step false s l with
      | some s' => runProgress s' ls
      | none => none
    else none

/-- **Termination**: without new attempts, idle timers and connection faults, the pool takes at
    most `mu s` steps — every schedule of the pool's own steps is finite. -/
theorem progress_runs_are_bounded (s s' : State) (ls : List Label) (h : runProgress s ls = some s') :
    ls.length + mu s' ≤ mu s := by
  induction ls generalizing s with
  | nil => simp [runProgress] at h; subst h; simp
  | cons l ls ih =>
    simp only [runProgress] at h
    split at h
    · rename_i hl
      split at h
      · rename_i s1 hs1
        have := ih s1 h
        have hd := measure_decreases s s1 l hl hs1
        simp only [List.length_cons]; omega
      · simp at h
    · simp at h

/-- **… and when it stops, everything is answered**: in a reachable state in which none of the pool's
    own steps is enabled, no request waits and no client holds one — by `request_in_one_place` every
    request ever attempted has its result. -/
theorem stuck_means_all_answered (size : Nat) (reuse pers : Bool) (ls : List Label) (s : State)
    (hr : run false (init size reuse pers) ls = some s)
    (hstuck : ∀ l, Label.internal l = true → step false s l = none) :
    s.queue = [] ∧ (∀ r, held r s.clients = 0) ∧ ∀ r ∈ s.attempted, r ∈ s.resulted := by
  have hq : s.queue = [] := Decidable.byContradiction fun hne => by
    obtain ⟨l, hl, hen⟩ := no_stranding false size reuse pers ls s hr hne
    rw [hstuck l hl] at hen; cases hen
  have hb : ∀ r, held r s.clients = 0 := fun r => by
    refine List.countP_eq_zero.mpr fun st hm hst => ?_
    obtain ⟨c, hget⟩ := List.mem_iff_getElem?.mp hm
    cases st with
    | busy r' ru =>
      obtain ⟨s2, hs2, -⟩ := busy_can_finish false s c r' ru hget
      rw [hstuck (.finish c) rfl] at hs2; cases hs2
    | _ => cases hst
  refine ⟨hq, hb, fun r hr' => ?_⟩
  have h1 := request_in_one_place false size reuse pers ls s hr r hr'
  rw [hq, hb r] at h1
  simp at h1
  exact List.count_pos_iff.mp (by omega)

section Reuse
open Slimta.RelaySession

/-- **Message content goes out only when the peer accepted the sender, a recipient and DATA**
    (whatever the other answers are, with and without PIPELINING, SMTP and LMTP). -/
theorem content_only_after_acceptance (lmtp p : Bool) (cmds : List Cmd) (m : Nat) (rs : List Nat) (d : Nat) (as : List Ans)
    (hb : .body ∈ (afterEnvelope lmtp p cmds m rs d as).cmds) (hn : .body ∉ cmds) :
    isError m = false ∧ (∃ r ∈ rs, isError r = false) ∧ isError d = false := by
  unfold afterEnvelope at hb
  dsimp only at hb
  -- `by_cases`, not `split`: on a hypothesis of this size `split` is dear
  by_cases hc : (isError m || (rs.filter fun c => !isError c).length == 0 || isError d) = true
  · -- refused: what is written after `cmds` is `empty` and RSET at most
    rw [if_pos hc] at hb
    have hf : ∀ c as, (failRset c as).cmds = c ++ [.rset] := fun c as => by unfold failRset; split <;> rfl
    split at hb
    · split at hb <;> split at hb <;> simp [dead, hf, hn] at hb
    · simp [hf, hn] at hb
  · simpa [not_or, List.filter_eq_nil_iff, and_assoc] using hc

/-- **A failed transaction is reset before the connection is used again.** For every number of
    recipients and every behaviour of the peer: when a delivery leaves the connection alive, the last
    command written is RSET, or it is the message data and that was accepted (for LMTP: for every
    accepted recipient). -/
theorem failed_transaction_is_reset (lmtp p : Bool) (n : Nat) (as : List Ans) (h : (deliver lmtp p n as).alive = true) :
    ((deliver lmtp p n as).delivered = false ∧ (deliver lmtp p n as).cmds.getLast? = some .rset) ∨
    ((deliver lmtp p n as).delivered = true ∧ (deliver lmtp p n as).cmds.getLast? = some .body) := by
  have := (deliver_tail lmtp p n as).2 h
  cases hd : (deliver lmtp p n as).delivered <;> simp [this, hd]

/-- **One message at a time on a reused connection**: over any number of messages and any peer
    behaviour, the commands of the messages do not interleave — each delivery's commands begin with
    its MAIL and hold no other — and every MAIL but the first comes directly after a RSET or after
    message data. -/
theorem one_message_at_a_time (lmtp p : Bool) (ns : List Nat) (as : List Ans) :
    MailAfterClean (session lmtp p ns as) ∧ ∀ n as', Shape (deliver lmtp p n as').cmds :=
  ⟨session_clean lmtp p ns as, fun n as' => deliver_shape lmtp p n as'⟩

end Reuse

/-! Non-vacuity: a run that exercises bound, respawn and re-queue. -/
example : (run true (init 1 true) [.attempt 1, .attempt 2, .poll 0, .finish 0, .poll 0, .requeue 0, .unlink 0]).map
    (fun s => (s.clients, s.queue, s.resulted)) = some ([.ready false], [2], [1]) := by decide

end Slimta.C19
