import Model.DiskFS
import Proofs.C01
import Proofs.Lemmas.QueueHistory
/-!
# C04 — a crash at any point never loses an acknowledged message (disk queue)

Model: `Model/DiskFS.lean`: every storage operation is a list of atomic file-system effects; the process may die after any
prefix. POSIX atomicity of `rename`/`unlink` and pickle integrity are assumed (partial: see DESIGN.md). One operation cut at any
point, then histories of operations, then the restart: the queue started on what a fresh `DiskStorage` recovers schedules the
message (C12) and loses none of its recipients (C01).
-/
namespace Slimta.C04
open Slimta.DiskFS

theorem fsGet_fsDel (p q : Path) (fs : FS) : fsGet p (fsDel q fs) = if q = p then none else fsGet p fs := by
  induction fs with
  | nil => simp [fsDel, fsGet]
  | cons x rest ih =>
    obtain ⟨r, c⟩ := x
    by_cases hq : r = q
    · subst hq; by_cases hp : r = p
      · subst hp; simp [fsDel, ih]
      · simp [fsDel, fsGet, ih, hp]
    · by_cases hp : r = p
      · subst hp; simp [fsDel, fsGet, hq, Ne.symm hq]
      · simp [fsDel, fsGet, hq, hp, ih]

theorem fsGet_fsSet (p q : Path) (c : Content) (fs : FS) :
    fsGet p (fsSet q c fs) = if q = p then some c else fsGet p fs := by
  by_cases h : q = p <;> simp [fsSet, fsGet, fsGet_fsDel, h]

/-- The path an effect changes. -/
def target : Effect → Path
  | .create k | .append k => .tmp k
  | .rename _ dst _ => dst
  | .unlink p => p

/-- An effect that neither targets `p` nor is a rename (which also consumes its temp file, never a
    final path) leaves `p` alone; a rename leaves every path but its destination and its temp file. -/
theorem fsGet_applyEffect (p : Path) (fs : FS) (e : Effect) (h : target e ≠ p) (hp : ∀ k, p ≠ .tmp k) :
    fsGet p (applyEffect fs e) = fsGet p fs := by
  have ht (k : Nat) : ¬ Path.tmp k = p := fun e => hp k e.symm
  cases e <;> simp only [applyEffect, target] at h ⊢
  case append => split <;> simp [fsGet_fsSet, ht]
  -- create, rename, unlink: a get after a set / delete of another path
  all_goals simp [fsGet_fsSet, fsGet_fsDel, ht, h]

theorem applyAll_append (fs : FS) (a b : List Effect) : applyAll fs (a ++ b) = applyAll (applyAll fs a) b :=
  List.foldl_append ..

theorem fsGet_applyAll (p : Path) (hp : ∀ k, p ≠ .tmp k) (es : List Effect) (fs : FS)
    (h : ∀ e ∈ es, target e ≠ p) : fsGet p (applyAll fs es) = fsGet p fs := by
  induction es generalizing fs with
  | nil => rfl
  | cons e rest ih =>
    rw [applyAll, List.foldl_cons, ← applyAll, ih _ fun x hx => h x (by simp [hx]),
      fsGet_applyEffect p fs e (h e (by simp)) hp]

/-- **Effects on other messages (and on temp files) never disturb a message**: whatever prefix of
    whatever operations on other ids has reached the disk, message `id` is recovered as before. -/
theorem foreign_effects_harmless (id : Nat) (es : List Effect) (fs : FS)
    (h : ∀ e ∈ es, target e ≠ .env id ∧ target e ≠ .mfile id) :
    recover (applyAll fs es) id = recover fs id := by
  simp only [recover, fsGet_applyAll (.env id) (by simp) es fs fun e he => (h e he).1,
    fsGet_applyAll (.mfile id) (by simp) es fs fun e he => (h e he).2]

theorem dump_targets (k c : Nat) (dst : Path) (ct : Content) :
    ∀ e ∈ dump k c dst ct, target e = .tmp k ∨ e = .rename k dst ct := by
  simp +contextual [dump, target, or_imp]

/-- **`AioFile.dump` cut after `n` effects, seen from a final path**: the temp-file effects are invisible, the rename
    (effect number `c + 2`) is the commit point. -/
theorem fsGet_take_dump (p : Path) (hp : ∀ k, p ≠ .tmp k) (fs : FS) (k c : Nat) (dst : Path) (ct : Content) (n : Nat) :
    fsGet p (applyAll fs ((dump k c dst ct).take n)) = if c + 2 ≤ n ∧ dst = p then some ct else fsGet p fs := by
  have ht : ∀ e ∈ [Effect.create k] ++ List.replicate c (Effect.append k), target e ≠ p := by
    intro e he
    simp only [List.mem_append, List.mem_singleton, List.mem_replicate] at he
    rcases he with rfl | ⟨_, rfl⟩ <;> exact fun e => hp k e.symm
  by_cases hn : c + 2 ≤ n
  · rw [List.take_of_length_le (by simp [dump]; omega), dump, applyAll_append]
    simp only [applyAll, List.foldl_cons, List.foldl_nil, applyEffect, fsGet_fsSet, fsGet_fsDel, hn, true_and]
    split
    · rfl
    · rw [if_neg (fun e => hp k e.symm)]; exact fsGet_applyAll p hp _ fs ht
  · rw [dump, List.take_append_of_le_length (by simp; omega), if_neg (fun h => hn h.1)]
    exact fsGet_applyAll p hp _ fs fun e he => ht e (List.mem_of_mem_take he)

theorem fsGet_dump (p : Path) (hp : ∀ k, p ≠ .tmp k) (fs : FS) (k c : Nat) (dst : Path) (ct : Content) :
    fsGet p (applyAll fs (dump k c dst ct)) = if dst = p then some ct else fsGet p fs := by
  simpa [show (dump k c dst ct).take (c + 2) = dump k c dst ct from List.take_of_length_le (by simp [dump])]
    using fsGet_take_dump p hp fs k c dst ct (c + 2)

theorem recover_eq_some {fs : FS} {id e : Nat} {m : Meta} :
    recover fs id = some (e, m) ↔ fsGet (.env id) fs = some (.envelope e) ∧ fsGet (.mfile id) fs = some (.metaC m) := by
  unfold recover; split <;> simp_all

theorem effectsOf_targets (fs : FS) (k c1 c2 : Nat) (op : Op) :
    ∀ x ∈ effectsOf fs k c1 c2 op, (∃ t, target x = .tmp t) ∨ target x = .env op.id ∨ target x = .mfile op.id := by
  have hd (k c dst ct) (hdst : dst = .env op.id ∨ dst = .mfile op.id) :
      ∀ x ∈ dump k c dst ct, (∃ t, target x = .tmp t) ∨ target x = .env op.id ∨ target x = .mfile op.id := by
    intro x hx
    rcases dump_targets k c dst ct x hx with h | rfl
    · exact .inl ⟨k, h⟩
    · exact .inr hdst
  intro x hx
  cases op <;> simp only [effectsOf, List.mem_append] at hx
  case write => exact hx.elim (hd _ _ _ _ (.inl rfl) x) (hd _ _ _ _ (.inr rfl) x)
  case remove => simp only [List.mem_cons, List.not_mem_nil, or_false] at hx; rcases hx with rfl | rfl <;> simp [target, Op.id]
  -- the three meta updates: one dump to the meta file, or nothing
  all_goals
    split at hx
    · exact hd _ _ _ _ (.inr rfl) x hx
    · simp at hx

/-- An operation on another message, cut at any point, does not change what is recovered for
    `id` (this covers `write` of a new message, half-removed messages, orphan files). -/
theorem crash_in_other_operation (fs : FS) (k c1 c2 : Nat) (op : Op) (id : Nat) (hne : op.id ≠ id) (n : Nat) :
    recover (crashAt fs k c1 c2 op n) id = recover fs id := by
  apply foreign_effects_harmless
  intro x hx
  rcases effectsOf_targets fs k c1 c2 op x (List.mem_of_mem_take hx) with ⟨t, h⟩ | h | h <;> simp [h, hne]

/-- `op` is a read-modify-write of a meta file. -/
def MetaUpd : Op → Prop
  | .setTs .. | .incr _ | .deliver .. => True
  | _ => False

/-- `Allowed`, `meta_update_cut` and `C15.exec_meta_missing` spell their hypothesis as this disjunction, with `t` and `l` read off
    `op` by a `match`. -/
theorem MetaUpd.of_eq {op : Op} {id t : Nat} {l : List Nat} (hop : op = .setTs id t ∨ op = .incr id ∨ op = .deliver id l) :
    MetaUpd op ∧ op.id = id := by
  rcases hop with rfl | rfl | rfl <;> exact ⟨trivial, rfl⟩

theorem effectsOf_metaUpd {op : Op} (fs : FS) (k c1 c2 : Nat) (hop : MetaUpd op) :
    effectsOf fs k c1 c2 op = match fsGet (.mfile op.id) fs with
      | some (.metaC m) => dump k c1 (.mfile op.id) (.metaC (newMeta m op))
      | _ => [] := by
  cases op <;> first | rfl | exact hop.elim

/-- **A meta update cut after `n` effects**: whatever was recovered for the message before is recovered still, with the old meta up
    to and including the last chunk of the temp file and the new one from the rename on (nothing, if nothing was). -/
theorem recover_crash_metaUpd (fs : FS) (k c1 c2 : Nat) (op : Op) (hop : MetaUpd op) (n : Nat) :
    recover (crashAt fs k c1 c2 op n) op.id =
      (recover fs op.id).map fun p => (p.1, if n ≤ c1 + 1 then p.2 else newMeta p.2 op) := by
  rw [crashAt, effectsOf_metaUpd fs k c1 c2 hop]
  split
  · rename_i m hm
    simp only [recover, fsGet_take_dump (.env op.id) (by simp), fsGet_take_dump (.mfile op.id) (by simp), hm, reduceCtorEq,
      and_false, if_false, and_true]
    cases fsGet (.env op.id) fs with
    | none => rfl
    | some c =>
      cases c with
      | envelope e => by_cases h : n ≤ c1 + 1 <;> simp [h, show c1 + 2 ≤ n ↔ ¬ n ≤ c1 + 1 by omega]
      | _ => rfl
  · rename_i hm
    have : recover fs op.id = none := Option.eq_none_iff_forall_ne_some.mpr fun p h => hm _ (recover_eq_some.mp h).2
    simp [applyAll, this]

/-- The sharp form: up to and including the last chunk of the temp file the old meta is recovered, from the rename on the new one. -/
theorem meta_update_cut (fs : FS) (k c1 c2 : Nat) (op : Op) (id e : Nat) (m : Meta)
    (hop : op = .setTs id (match op with | .setTs _ t => t | _ => 0) ∨ op = .incr id ∨
           op = .deliver id (match op with | .deliver _ l => l | _ => []))
    (hr : recover fs id = some (e, m)) (n : Nat) :
    recover (crashAt fs k c1 c2 op n) id = some (e, if n ≤ c1 + 1 then m else newMeta m op) := by
  obtain ⟨hm, rfl⟩ := MetaUpd.of_eq hop
  rw [recover_crash_metaUpd fs k c1 c2 op hm, hr]; rfl

/-- An operation with what `DiskFS.effectsOf` needs besides: the first unused temp-file name `k` and the chunk counts `c1`, `c2` of the pickles it writes. -/
structure Step where
  op : Op
  k : Nat
  c1 : Nat
  c2 : Nat
deriving Repr, DecidableEq

/-- One operation carried out completely. -/
def exec (fs : FS) (s : Step) : FS := applyAll fs (effectsOf fs s.k s.c1 s.c2 s.op)

def execAll (fs : FS) (l : List Step) : FS := l.foldl exec fs

/-- **A completed write is visible as written**: after all its effects the message is recovered with
    the written envelope, attempt count 0 and its timestamp. -/
theorem write_complete (fs : FS) (k c1 c2 id e ts : Nat) :
    recover (exec fs ⟨.write id e ts, k, c1, c2⟩) id = some (e, ⟨ts, 0, []⟩) := by
  simp [recover_eq_some, exec, effectsOf, applyAll_append, fsGet_dump]

/-- **A removal in progress hides the message at once** (the envelope file goes first), so a
    half-removed message is never half-loaded, and after it nothing is left to recover. -/
theorem crash_in_remove (fs : FS) (k c1 c2 id : Nat) (n : Nat) (hn : 1 ≤ n) :
    recover (crashAt fs k c1 c2 (.remove id) n) id = none := by
  obtain _ | _ | n := n
  · omega
  -- cut after the first unlink, or complete: the envelope file is gone
  all_goals simp [crashAt, effectsOf, applyAll, applyEffect, recover, fsGet_fsDel]

/-- **A meta update cut at any point leaves the old or the new meta, never anything else**, and
    the envelope untouched: attempts, timestamp and delivered recipients are the value before or
    after the operation in progress. -/
theorem crash_in_meta_update (fs : FS) (k c1 c2 : Nat) (op : Op) (id e : Nat) (m : Meta)
    (hop : op = .setTs id (match op with | .setTs _ t => t | _ => 0) ∨ op = .incr id ∨
           op = .deliver id (match op with | .deliver _ l => l | _ => []))
    (hr : recover fs id = some (e, m)) (n : Nat) :
    recover (crashAt fs k c1 c2 op n) id = some (e, m) ∨
    recover (crashAt fs k c1 c2 op n) id = some (e, newMeta m op) := by
  rw [meta_update_cut fs k c1 c2 op id e m hop hr n]
  split
  · exact Or.inl rfl
  · exact Or.inr rfl

/-! ## Histories

A message is acknowledged once its `write` has completed (C02: `no_reply_before_writes_complete`); from then on the queue runs any
number of further operations — writes and removals of other messages, attempt counters, new due times and delivered marks of this
one — and the process may die at any effect of any of them. -/

/-- Everything the queue may do while it holds message `id`: anything about another message, and for this one a new due time,
    the attempt counter, delivered marks — not a second write of the same id (ids are fresh) and not its removal (which is the
    queue's decision that the message is finished). -/
def Allowed (id : Nat) (op : Op) : Prop :=
  op.id ≠ id ∨ (op = .setTs id (match op with | .setTs _ t => t | _ => 0) ∨ op = .incr id ∨
                op = .deliver id (match op with | .deliver _ l => l | _ => []))

/-- The meta the completed operations leave for `id`. -/
def metaAfter (id : Nat) (m : Meta) (l : List Step) : Meta :=
  l.foldl (fun m s => if s.op.id = id then newMeta m s.op else m) m

theorem crashAt_of_length_le {fs : FS} {s : Step} {n : Nat} (h : (effectsOf fs s.k s.c1 s.c2 s.op).length ≤ n) :
    crashAt fs s.k s.c1 s.c2 s.op n = exec fs s := by
  rw [crashAt, List.take_of_length_le h]; rfl

theorem recover_exec_other (fs : FS) (s : Step) (j : Nat) (h : s.op.id ≠ j) : recover (exec fs s) j = recover fs j := by
  rw [← crashAt_of_length_le (Nat.le_refl _)]; exact crash_in_other_operation fs s.k s.c1 s.c2 s.op j h _

theorem recover_exec_metaUpd (fs : FS) (s : Step) (hop : MetaUpd s.op) :
    recover (exec fs s) s.op.id = (recover fs s.op.id).map fun p => (p.1, newMeta p.2 s.op) := by
  have hlen : (effectsOf fs s.k s.c1 s.c2 s.op).length ≤ s.c1 + 2 := by
    rw [effectsOf_metaUpd fs s.k s.c1 s.c2 hop]; split <;> simp [dump]
  rw [← crashAt_of_length_le hlen, recover_crash_metaUpd fs s.k s.c1 s.c2 s.op hop]
  simp

/-- A completed allowed operation: the envelope stays, the meta is what the operation makes of it. -/
theorem exec_allowed (fs : FS) (s : Step) (id e : Nat) (m : Meta) (ha : Allowed id s.op) (hr : recover fs id = some (e, m)) :
    recover (exec fs s) id = some (e, if s.op.id = id then newMeta m s.op else m) := by
  rcases ha with hne | hop
  · rw [recover_exec_other fs s id hne, if_neg hne, hr]
  · obtain ⟨hm, rfl⟩ := MetaUpd.of_eq hop
    rw [recover_exec_metaUpd fs s hm, hr, if_pos rfl]; rfl

theorem execAll_allowed (fs : FS) (l : List Step) (id e : Nat) (m : Meta) (hl : ∀ s ∈ l, Allowed id s.op)
    (hr : recover fs id = some (e, m)) : recover (execAll fs l) id = some (e, metaAfter id m l) := by
  induction l generalizing fs m with
  | nil => simpa [execAll, metaAfter] using hr
  | cons s rest ih =>
    rw [List.forall_mem_cons] at hl
    simp only [execAll, metaAfter, List.foldl_cons]
    exact ih (exec fs s) _ hl.2 (exec_allowed fs s id e m hl.1 hr)

/-- **An acknowledged message survives every history and a crash at any point of it** (the property over histories): once the
    write of message `id` has completed — whatever the directories held before —, after any number of completed further
    operations (anything about other messages; due times, attempt counters and delivered marks of this one) and with the process
    dying `n` effects into yet another one, for every `n`: a fresh `DiskStorage` over the directories recovers the message with
    the envelope that was written, and its meta is exactly what the completed operations made of it — or that with the
    interrupted operation applied as well; nothing in between, nothing older. -/
theorem acknowledged_message_survives (fs0 : FS) (k c1 c2 id e ts : Nat) (later : List Step) (last : Step)
    (hl : ∀ s ∈ later, Allowed id s.op) (hlast : Allowed id last.op) (n : Nat) :
    let fs := execAll (exec fs0 ⟨.write id e ts, k, c1, c2⟩) later
    let m := metaAfter id ⟨ts, 0, []⟩ later
    recover (crashAt fs last.k last.c1 last.c2 last.op n) id = some (e, m) ∨
    recover (crashAt fs last.k last.c1 last.c2 last.op n) id = some (e, newMeta m last.op) := by
  intro fs m
  have hr : recover fs id = some (e, m) := execAll_allowed _ later id e _ hl (write_complete fs0 k c1 c2 id e ts)
  rcases hlast with hne | hop
  · left; rw [crash_in_other_operation fs last.k last.c1 last.c2 last.op id hne, hr]
  · exact crash_in_meta_update fs last.k last.c1 last.c2 last.op id e m hop hr n

/-- … and the attempt counter in `metaAfter` counts exactly the completed `increment_attempts` calls: with
    `acknowledged_message_survives`, the counter a recovered message shows is never behind them (a restart cannot reset the retry
    schedule of a message). -/
theorem metaAfter_attempts (id : Nat) (m : Meta) (l : List Step) :
    (metaAfter id m l).attempts = m.attempts + (l.filter fun s => s.op == .incr id).length := by
  induction l generalizing m with
  | nil => simp [metaAfter]
  | cons s rest ih =>
    -- one step: only `incr id` touches the counter
    have h1 : (if s.op.id = id then newMeta m s.op else m).attempts = m.attempts + if s.op = .incr id then 1 else 0 := by
      cases s.op with
      | write i _ _ | setTs i _ | incr i | deliver i _ | remove i => by_cases h : i = id <;> simp [Op.id, newMeta, h]
    rw [metaAfter, List.foldl_cons, ← metaAfter, ih, h1, List.filter_cons]
    by_cases h : s.op = .incr id <;> simp [h] <;> omega

/-! ## The restart (C04 ∘ C12): the new queue has the acknowledged message in its timetable

`Queue._load_all` asks a fresh `DiskStorage` for `(timestamp, id)` of everything it finds and announces each to the scheduler. -/
section restart
open Slimta.Sched

/-- What `load()` of a fresh `DiskStorage` over the directories yields, for the ids that ever existed. -/
def loadOf (fs : FS) (ids : List Nat) : List (Nat × Nat) :=
  ids.filterMap fun id => (recover fs id).map fun p => (id, p.2.ts)

theorem loadOf_nodup (fs : FS) (ids : List Nat) (h : ids.Nodup) : ((loadOf fs ids).map (·.1)).Nodup := by
  have (l : List Nat) : (loadOf fs l).map (·.1) = l.filter fun id => (recover fs id).isSome := by
    induction l with
    | nil => rfl
    | cons i rest ih => cases hr : recover fs i <;> simp_all [loadOf]
  exact this ids ▸ h.sublist List.filter_sublist

theorem mem_loadOf {fs : FS} {ids : List Nat} {id e : Nat} {m : Meta} (hr : recover fs id = some (e, m)) (hid : id ∈ ids) :
    (id, m.ts) ∈ loadOf fs ids := by
  simp only [loadOf, List.mem_filterMap, Option.map_eq_some_iff]
  exact ⟨id, hid, (e, m), hr, rfl⟩

/-- **After the crash the restarted queue knows the acknowledged message and has it in its timetable** (C04 ∘ C12): under the
    hypotheses of `acknowledged_message_survives`, a queue started on what a fresh `DiskStorage` loads from the directories
    finds the message with a due time, the announcement of it is a step of the scheduler model, and after that step the message
    is known, stored and scheduled with the loop due to wake — from where `C12.never_forgotten` and `C12.due_is_dispatched`
    carry it through every later state. -/
theorem restarted_queue_schedules_acknowledged (fs0 : FS) (k c1 c2 id e ts : Nat) (later : List Step) (last : Step)
    (hl : ∀ s ∈ later, Allowed id s.op) (hlast : Allowed id last.op) (n : Nat) (ids : List Nat) (hnd : ids.Nodup) (hid : id ∈ ids) :
    let fs := crashAt (execAll (exec fs0 ⟨.write id e ts, k, c1, c2⟩) later) last.k last.c1 last.c2 last.op n
    ((loadOf fs ids).map (·.1)).Nodup ∧
    ∃ due s, (id, due) ∈ loadOf fs ids ∧ Sched.step (C12.start (loadOf fs ids)) (.announce id due) = some s ∧
      C12.Reach (C12.start (loadOf fs ids)) s ∧ id ∈ s.known ∧ id ∈ sIds s ∧ C12.Whereabouts s id := by
  intro fs
  refine ⟨loadOf_nodup fs ids hnd, ?_⟩
  have hsurv := acknowledged_message_survives fs0 k c1 c2 id e ts later last hl hlast n
  obtain ⟨m, hm⟩ : ∃ m, recover fs id = some (e, m) := by
    rcases hsurv with h | h <;> exact ⟨_, h⟩
  obtain ⟨s, h⟩ := C12.start_announce (mem_loadOf hm hid)
  exact ⟨m.ts, s, mem_loadOf hm hid, h⟩

end restart

section restartLedger
open Slimta.QM

/-- The recipients `get` shows for a recovered message: the pickled list with the delivered rounds replayed
    (`envOf e`: the recipients of the envelope pickled with identity `e`). -/
def rcptsOf (envOf : Nat → List Nat) (fs : FS) (id : Nat) : List Nat :=
  match recover fs id with
  | some p => Store.delSeq p.2.delivered (envOf p.1)
  | none => []

/-- The attempt counter `get` shows for a recovered message. -/
def attOf (fs : FS) (id : Nat) : Nat :=
  match recover fs id with
  | some p => p.2.attempts
  | none => 0

theorem delSeq_sublist (idxs : List Nat) (l : List Nat) : (Store.delSeq idxs l).Sublist l := by
  induction idxs generalizing l with
  | nil => simp [Store.delSeq]
  | cons i rest ih =>
    simp only [Store.delSeq, List.foldl_cons]
    exact (ih (l.eraseIdx i)).trans (List.eraseIdx_sublist l i)

theorem rcptsOf_nodup {envOf : Nat → List Nat} (henv : ∀ e, (envOf e).Nodup) (fs : FS) (i : Nat) : (rcptsOf envOf fs i).Nodup := by
  unfold rcptsOf; split
  · exact (delSeq_sublist _ _).nodup (henv _)
  · simp

/-- **After the crash nobody the message still lists is lost**: under the hypotheses of `acknowledged_message_survives`, start the
    composed queue machine of C01 on what a fresh `DiskStorage` recovers (ids, due times, recipients not yet marked delivered,
    attempt counters). In every state the restarted queue reaches — any interleaving of loading announcements, scheduler turns,
    attempts with any relay answers, retries, removals, new enqueues — every such recipient of the acknowledged message is counted
    exactly once among delivered / failed for good / outstanding, and when outstanding the message is stored and (once its loading
    announcement has made it known to the queue) has a next step. -/
theorem restarted_queue_never_loses (fs0 : FS) (k c1 c2 id e ts : Nat) (later : List Step) (last : Step)
    (hl : ∀ s ∈ later, Allowed id s.op) (hlast : Allowed id last.op) (n : Nat) (ids : List Nat) (hnd : ids.Nodup) (hid : id ∈ ids)
    (envOf : Nat → List Nat) (henv : ∀ e', (envOf e').Nodup) (fb : Bool) (nn : Nat → Bool) :
    let fs := crashAt (execAll (exec fs0 ⟨.write id e ts, k, c1, c2⟩) later) last.k last.c1 last.c2 last.op n
    (∃ m, recover fs id = some (e, m) ∧ rcptsOf envOf fs id = Store.delSeq m.delivered (envOf e)) ∧
    ∀ q, Reach fb (startAt (loadOf fs ids) (rcptsOf envOf fs) nn (attOf fs)) q → ∀ x ∈ rcptsOf envOf fs id,
      (q.delivered id).count x + ((q.failed id).map Prod.fst).count x + (outstanding q.s.rem q id).count x = 1 ∧
      (x ∈ q.delivered id ∨
       (∃ rp, (x, rp) ∈ q.failed id ∧ ((fb && q.nonNull id) = true → ∃ b ∈ q.bounces id, b.reply = rp ∧ x ∈ b.rcpts)) ∨
       (x ∈ outstanding q.s.rem q id ∧ id ∈ Sched.sIds q.s ∧ (id ∈ q.s.known → C12.Whereabouts q.s id))) := by
  intro fs
  have hsurv := acknowledged_message_survives fs0 k c1 c2 id e ts later last hl hlast n
  obtain ⟨m, hm⟩ : ∃ m, recover fs id = some (e, m) := by
    rcases hsurv with h | h <;> exact ⟨_, h⟩
  refine ⟨⟨m, hm, by simp [rcptsOf, hm]⟩, ?_⟩
  intro q hr x hx
  have hpre := loadOf_nodup fs ids hnd
  have hrc (i) (_ : i ∈ (loadOf fs ids).map (·.1)) := rcptsOf_nodup henv fs i
  have hmem : id ∈ (loadOf fs ids).map (·.1) := List.mem_map.mpr ⟨(id, m.ts), mem_loadOf hm hid, rfl⟩
  have horig := reach_orig_pre hpre hrc hr hmem
  exact ⟨C01.one_disposition hpre hrc hr id _ horig x hx, C01.accepted_never_lost hpre hrc hr id _ horig x hx⟩

/-- **The restarted queue continues the retry schedule** (C04 ∘ C01): started on the recovered ids, due times, recipients and
    attempt counters (`QM.startAt`), the hand-offs of a recovered message carry the recovered counter, then counter + 1, … — and by
    `acknowledged_message_survives` / `metaAfter_attempts` that counter is the number of `increment_attempts` calls that completed
    before the crash (plus the interrupted one if its rename happened). -/
theorem restarted_queue_continues_the_count (fs : FS) (ids : List Nat) (hnd : ids.Nodup) (envOf : Nat → List Nat)
    (henv : ∀ e', (envOf e').Nodup) (fb : Bool) (nn : Nat → Bool) (id : Nat) (hid : id ∈ (loadOf fs ids).map (·.1)) {q : State}
    (hr : Reach fb (startAt (loadOf fs ids) (rcptsOf envOf fs) nn (attOf fs)) q) :
    ((q.handed.filter (·.1 == id)).reverse.map (·.2.2)) =
      (List.range (q.handed.filter (·.1 == id)).length).map (· + attOf fs id) :=
  C01.attempt_numbers_continue (attOf fs) (loadOf_nodup fs ids hnd) (fun i _ => rcptsOf_nodup henv fs i) hr id hid

end restartLedger

example : recover (applyAll [] (effectsOf [] 0 2 1 (.write 5 9 100))) 5 = some (9, ⟨100, 0, []⟩) := by decide

example : recover (crashAt (applyAll [] (effectsOf [] 0 2 1 (.write 5 9 100))) 2 1 1 (.incr 5) 2) 5
    = some (9, ⟨100, 0, []⟩) := by decide

example : recover (crashAt (applyAll [] (effectsOf [] 0 2 1 (.write 5 9 100))) 2 1 1 (.incr 5) 3) 5
    = some (9, ⟨100, 1, []⟩) := by decide

/-- a history: write 5, another message written, 5's counter raised twice and a recipient marked, message 7 removed; the process
    dies one effect into a new due time for 5 -/
example :
    let later : List Step := [⟨.write 7 3 50, 2, 1, 1⟩, ⟨.incr 5, 4, 2, 0⟩, ⟨.deliver 5 [1], 6, 1, 0⟩, ⟨.incr 5, 8, 1, 0⟩, ⟨.remove 7, 0, 0, 0⟩]
    let fs := execAll (exec [] ⟨.write 5 9 100, 0, 2, 1⟩) later
    recover (crashAt fs 10 1 0 (.setTs 5 400) 1) 5 = some (9, ⟨100, 2, [1]⟩) ∧
    recover (crashAt fs 10 1 0 (.setTs 5 400) 3) 5 = some (9, ⟨400, 2, [1]⟩) ∧
    recover fs 7 = none ∧ metaAfter 5 ⟨100, 0, []⟩ later = ⟨100, 2, [1]⟩ := by decide

end Slimta.C04
