import Proofs.Lemmas.Esc
import Proofs.Lemmas.Reply
/-!
# C17 — replies survive the wire: encode/parse round trip, exact consumption, bad replies

Model: `Model/Reply.lean` (`IO.send_reply`, `IO.recv_reply`, `Reply`). The wire theorems rest on `recvRun_agrees`: the outcome
of `recv_reply` is determined by one `scan` of the concatenated stream, which is then computed on each kind of stream. The
`Reply` object's enhanced-status-code handling is the second half.
-/
namespace Slimta.C17
open Slimta.Reply

theorem recvRun_agrees (buf0 : Bytes) (segs : List Bytes) (hne : ∀ s ∈ segs, s ≠ []) :
    Agrees (scan none [] (buf0 ++ segs.flatten)) (recvRun buf0 segs) :=
  recvLoop_spec segs none [] buf0 hne

/-- **Round trip and exact consumption (wire level).** Any reply code (three digits, the first in 1..5) and any message bytes
    (valid UTF-8 after CRLF normalisation, i.e. any encoded text), written by `send_reply`, followed
    by any pipelined bytes, delivered as any `recv_buffer` prefix plus any non-empty `recv()`
    results: `recv_reply` returns that code and the CRLF-normalised text, and what is left
    (`recv_buffer` plus unread data) is exactly the pipelined successor. -/
theorem reply_roundtrip (c : Bytes) (hc : IsCode c) (hk : codeOk c = true) (m : Bytes) (hu : utf8Ok (normCRLF m) = true)
    (next buf0 : Bytes) (segs : List Bytes) (hne : ∀ s ∈ segs, s ≠ [])
    (hs : buf0 ++ segs.flatten = encode c m ++ next) :
    ∃ r, recvRun buf0 segs = .ok r ∧ r.code = c ∧ r.body = normCRLF m ∧
      r.recvBuffer ++ r.unread.flatten = next := by
  have := recvRun_agrees buf0 segs hne
  rwa [hs, encode, scan_encodeLines c hc hk _ (allLines_crlf_ne_nil m) [] none (Or.inl rfl)
    (allLines_noLF _) (by simpa [joinCRLF_allLines] using hu), List.nil_append, joinCRLF_allLines] at this

/-- What the caller of `recv_reply` can observe. -/
def observable : Except (Err × Bytes) Result → Except Err (Bytes × Bytes × Bytes)
  | .ok r => .ok (r.code, r.body, r.recvBuffer ++ r.unread.flatten)
  | .error (e, _) => .error e

theorem agrees_observable {w : Scan} {r1 r2 : Except (Err × Bytes) Result} (h1 : Agrees w r1)
    (h2 : Agrees w r2) : observable r1 = observable r2 := by
  cases w with
  | done c body rest =>
    obtain ⟨r1, rfl, a1, b1, c1⟩ := h1
    obtain ⟨r2, rfl, a2, b2, c2⟩ := h2
    simp [C17.observable, a1, a2, b1, b2, c1, c2]
  | bad rest => obtain ⟨_, rfl⟩ := h1; obtain ⟨_, rfl⟩ := h2; rfl
  | needMore c l b => obtain ⟨_, rfl⟩ := h1; obtain ⟨_, rfl⟩ := h2; rfl

/-- **Segmentation independence**, for every byte stream (well-formed or not): the code, the text,
    the bytes left over, or the kind of failure do not depend on how the stream was cut. -/
theorem reply_segmentation_independent (buf0 buf0' : Bytes) (segs segs' : List Bytes)
    (hne : ∀ s ∈ segs, s ≠ []) (hne' : ∀ s ∈ segs', s ≠ [])
    (h : buf0 ++ segs.flatten = buf0' ++ segs'.flatten) :
    observable (recvRun buf0 segs) = observable (recvRun buf0' segs') :=
  agrees_observable (recvRun_agrees buf0 segs hne) (h ▸ recvRun_agrees buf0' segs' hne')

/-- **Malformed: not a reply line** (non-numeric code, missing separator, …). As soon as the first
    complete line of the stream is not `ddd[ \t-]text`, every delivery raises `BadReply`. -/
theorem bad_reply_non_reply_line (stream line rest : Bytes) (hm : matchLine stream = some (line, rest))
    (hp : parseReplyLine line = none) (buf0 : Bytes) (segs : List Bytes) (hne : ∀ s ∈ segs, s ≠ [])
    (hs : buf0 ++ segs.flatten = stream) :
    ∃ rb, recvRun buf0 segs = .error (.badReply, rb) := by
  have := recvRun_agrees buf0 segs hne
  rwa [hs, scan_some hm, hp] at this

/-- **Malformed: different codes within one multi-line reply.** -/
theorem bad_reply_mixed_codes (c1 c2 : Bytes) (h1 : IsCode c1) (h2 : IsCode c2) (hd : c1 ≠ c2)
    (t1 t2 : Bytes) (ht1 : ∀ b ∈ t1, b ≠ 10) (ht2 : ∀ b ∈ t2, b ≠ 10) (sep : Byte)
    (hsep : sep = 32 ∨ sep = 9 ∨ sep = 45) (rest buf0 : Bytes) (segs : List Bytes)
    (hne : ∀ s ∈ segs, s ≠ [])
    (hs : buf0 ++ segs.flatten = c1 ++ [45] ++ t1 ++ CRLF ++ (c2 ++ [sep] ++ t2 ++ CRLF ++ rest)) :
    ∃ rb, recvRun buf0 segs = .error (.badReply, rb) := by
  have := recvRun_agrees buf0 segs hne
  -- the first line sets the code and announces more; the second fails the comparison of the codes
  rwa [hs, scan_replyLine h1 (Or.inr (Or.inr rfl)) ht1, scan_replyLine h2 hsep ht2, if_neg (by simp), if_neg (by simp),
    if_pos (by simp [hd])] at this

/-- **Malformed: invalid UTF-8.** A syntactically complete reply whose text is not valid UTF-8
    raises `BadReply`. -/
theorem bad_reply_invalid_utf8 (c : Bytes) (hc : IsCode c) (t : Bytes) (ht : ∀ b ∈ t, b ≠ 10)
    (hu : utf8Ok t = false) (rest buf0 : Bytes) (segs : List Bytes) (hne : ∀ s ∈ segs, s ≠ [])
    (hs : buf0 ++ segs.flatten = c ++ [32] ++ t ++ CRLF ++ rest) :
    ∃ rb, recvRun buf0 segs = .error (.badReply, rb) := by
  have := recvRun_agrees buf0 segs hne
  rw [hs, scan_replyLine hc (Or.inl rfl) ht] at this
  simpa [joinCRLF, hu, Agrees] using this

/-- **Malformed: a code outside 100..599.** A syntactically complete reply whose three digits do not
    start with 1..5 raises `BadReply` under every delivery. -/
theorem bad_reply_code_out_of_range (c : Bytes) (hc : IsCode c) (hk : codeOk c = false) (t : Bytes) (ht : ∀ b ∈ t, b ≠ 10)
    (rest buf0 : Bytes) (segs : List Bytes) (hne : ∀ s ∈ segs, s ≠ [])
    (hs : buf0 ++ segs.flatten = c ++ [32] ++ t ++ CRLF ++ rest) :
    ∃ rb, recvRun buf0 segs = .error (.badReply, rb) := by
  have := recvRun_agrees buf0 segs hne
  rw [hs, scan_replyLine hc (Or.inl rfl) ht] at this
  simpa [hk, Agrees] using this

/-- **Never a partial reply.** While the concatenated stream does not yet hold a complete reply
    (and nothing malformed), the parser asks for more input: it neither returns nor fails. -/
theorem incomplete_waits (buf0 : Bytes) (segs : List Bytes) (hne : ∀ s ∈ segs, s ≠ [])
    (c : Option Bytes) (l : List Bytes) (b : Bytes)
    (h : scan none [] (buf0 ++ segs.flatten) = .needMore c l b) :
    ∃ rb, recvRun buf0 segs = .error (.wouldBlock, rb) := by
  have := recvRun_agrees buf0 segs hne
  rwa [h] at this

/-- **Enhanced-status class = reply-code class**, for every `Reply` state and every character
    classification. -/
theorem esc_class_eq_code_class (r : R) (e : Text) (h : getEsc r = some e) :
    ∃ c0 rest, r.code = some (c0 :: rest) ∧ e.head? = some c0 := by
  unfold getEsc at h
  split at h
  · rename_i c0 rest hcode
    refine ⟨c0, rest, hcode, ?_⟩
    split at h
    · split at h <;> simp at h <;> subst h <;> rfl
    · simp at h
  · simp at h

def cls245 (c : Char) : Bool := c == '2' || c == '4' || c == '5'

theorem mk_eq (k : Classes) (c0 : Char) (cr v : Text) :
    mk k (c0 :: cr) v =
      if v.isEmpty || !cls245 c0 then ⟨some (c0 :: cr), some v, .none⟩
      else match matchEscPrefix k v with
        | some (c, subj, det, rest) => ⟨some (c0 :: cr), some rest, .groups c subj det⟩
        | none => ⟨some (c0 :: cr), some v, .none⟩ := by
  simp only [mk, setMessage, escAllowed, cls245]
  rfl

theorem getMessage_eq (c0 : Char) (cr m : Text) (e : Esc) :
    getMessage ⟨some (c0 :: cr), some m, e⟩ =
      if m.isEmpty || !cls245 c0 then some m
      else match e with
        | .groups _ subj det => some ((c0 :: '.' :: (subj ++ '.' :: det)) ++ ' ' :: m)
        | .none => some ((c0 :: '.' :: (['0'] ++ '.' :: ['0'])) ++ ' ' :: m)
        | .off => some m := by
  cases h : cls245 c0 <;> cases hm : m.isEmpty <;> simp only [cls245] at h <;>
    cases e <;> simp [getMessage, getEsc, h, hm]

/-- A text as `getMessage` shows it — class, two digit groups, a space, the rest — is read back
    into those parts. -/
theorem mk_shown (k : Classes) (hk : ClassesOk k) (c0 : Char) (cr : Text) (h245 : cls245 c0 = true)
    {subj det rest : Text} (hs : Digits3 k subj) (hd : Digits3 k det)
    (hr : ∀ x, rest.head? = some x → k.isS x = false) :
    mk k (c0 :: cr) ((c0 :: '.' :: (subj ++ '.' :: det)) ++ ' ' :: rest) =
      ⟨some (c0 :: cr), some rest, .groups c0 subj det⟩ := by
  have hc0 : c0 = '2' ∨ c0 = '4' ∨ c0 = '5' := by simpa [cls245, or_assoc] using h245
  have e : ((c0 :: '.' :: (subj ++ '.' :: det)) ++ ' ' :: rest) = c0 :: '.' :: (subj ++ '.' :: (det ++ ' ' :: rest)) := by
    simp
  rw [mk_eq, e, matchEscPrefix_of hk hc0 hs hd hr]
  simp [h245]

/-- **The text of a reply is a fixed point of the library's own reading of it.** Build `Reply(code, v)`
    for any (non-empty) code and any text that does not begin with white space; what its `message`
    property shows — enhanced status code included — is what the wire carries. A `Reply` given that
    text again, as the receiving side does, shows the same `message`. -/
theorem reply_text_fixed_point (k : Classes) (hk : ClassesOk k) (c0 : Char) (cr v : Text)
    (hv : ∀ x, v.head? = some x → k.isS x = false) (t : Text) (h1 : getMessage (mk k (c0 :: cr) v) = some t) :
    getMessage (mk k (c0 :: cr) t) = some t := by
  rw [mk_eq] at h1
  by_cases hc : (v.isEmpty || !cls245 c0) = true
  · -- nothing is looked for or shown (empty text, or 1xx / 3xx): `t = v`
    rw [if_pos hc, getMessage_eq, if_pos hc, Option.some.injEq] at h1
    subst h1
    rw [mk_eq, if_pos hc, getMessage_eq, if_pos hc]
  · rw [if_neg hc] at h1
    simp only [Bool.or_eq_true, Bool.not_eq_true', not_or, Bool.not_eq_true, Bool.not_eq_false] at hc
    obtain ⟨hvne, h245⟩ := hc
    have hd0 : Digits3 k ['0'] := ⟨by simp, by simp, by intro x hx; simp at hx; subst hx; exact hk.zeroDigit⟩
    cases hm : matchEscPrefix k v with
    | none =>
      -- shown with `c0.0.0`; the receiver finds that, then the same text
      rw [hm, getMessage_eq] at h1
      simp only [hvne, h245, Bool.not_true, Bool.or_false, Bool.false_eq_true, if_false, Option.some.injEq] at h1
      subst h1
      rw [mk_shown k hk c0 cr h245 hd0 hd0 hv, getMessage_eq]
      simp [hvne, h245]
    | some q =>
      obtain ⟨c, subj, det, rest⟩ := q
      obtain ⟨_, hs, hd, hrest⟩ := matchEscPrefix_spec hm
      rw [hm, getMessage_eq] at h1
      simp only [h245, Bool.not_true, Bool.or_false] at h1
      by_cases hre : rest.isEmpty = true
      · rw [if_pos hre, Option.some.injEq] at h1
        subst h1
        rw [mk_eq, if_pos (by simp [hre]), getMessage_eq, if_pos (by simp [hre])]
      · rw [if_neg hre, Option.some.injEq] at h1
        subst h1
        rw [mk_shown k hk c0 cr h245 hs hd hrest, getMessage_eq]
        simp [hre, h245]

/-- Python's `\d` / `\s` on the characters that matter here satisfy the class assumptions. -/
example : ClassesOk ⟨Char.isDigit, Char.isWhitespace⟩ :=
  ⟨by decide, by decide, by
    intro c hc
    simp only [Char.isDigit, Bool.and_eq_true, decide_eq_true_eq] at hc
    simp only [Char.isWhitespace, Bool.or_eq_false_iff]
    refine ⟨⟨⟨?_, ?_⟩, ?_⟩, ?_⟩ <;> (simp only [decide_eq_false_iff_not]; intro he; subst he; revert hc; decide), by decide⟩

/-! ### non-vacuity -/

example : IsCode [50, 53, 48] := ⟨50, 53, 48, rfl, by decide, by decide, by decide⟩

example : encode [50, 53, 48] [97, 10, 98] ++ [50]
    = [50, 53, 48, 45] ++ [[97, 13, 10, 50], [53, 48, 32, 98, 13], [10, 50]].flatten := by
  simp [encode, allLines, matchLine, splitLF, stripCR, encodeLines, CRLF]

example : getEsc (mk ⟨Char.isDigit, Char.isWhitespace⟩ ['5', '5', '0'] ['2', '.', '1', '.', '7', ' ', 'x'])
    = some ['5', '.', '1', '.', '7'] := by decide

end Slimta.C17
