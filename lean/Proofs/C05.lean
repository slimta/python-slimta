import Proofs.Lemmas.Data
/-!
# C05 — message content crosses DATA framing unchanged under any segmentation

Model: `Model/Data.lean` (transliteration of `DataSender` / `DataReader`). Everything rests on `Data.run_agrees`: the reader's
result is determined by the byte-wise fold `feed` over the whole stream, and `feed_send` computes that fold on what the sender
writes.
-/
namespace Slimta.C05
open Slimta.Data

/-- "plus a final CRLF when the original did not end with one" (the empty message stays empty). -/
def normalize (m : Bytes) : Bytes := if m = [] ∨ endsWith m CRLF = true then m else m ++ CRLF

/-- The message is handed to the sender in parts cut at line boundaries: a non-empty part starts
    either the message or right after a part that ended in LF (`atLineStart`). -/
def LineBoundarySplit (atLineStart : Bool) : List Bytes → Prop
  | [] => True
  | p :: ps => (p ≠ [] → atLineStart = true) ∧
      LineBoundarySplit (if p = [] then atLineStart else p.getLast? == some 10) ps

theorem parts_stuff (parts : List Bytes) (f : Bool) (h : LineBoundarySplit f parts) :
    (parts.map processPart).flatten = stuff f parts.flatten := by
  induction parts generalizing f with
  | nil => simp [stuff]
  | cons p ps ih =>
    obtain ⟨h1, h2⟩ := h
    by_cases hp : p = []
    · subst hp
      simp only [if_true] at h2
      simp [processPart, stuff, ih f h2]
    · have hf : f = true := h1 hp
      subst hf
      simp only [hp, if_false] at h2
      simp only [List.map_cons, List.flatten_cons, processPart, ih _ h2, stuff_append, hp, if_false]

theorem feed_send (parts : List Bytes) (hb : LineBoundarySplit true parts) (trail : Bytes) :
    feed {} (send parts ++ trail) =
      { data := normalize parts.flatten, cur := [], eod := true, after := trail } := by
  unfold send
  rw [parts_stuff parts true hb]
  generalize parts.flatten = m
  -- a non-empty message goes out as the complete lines of `normalize m`, then the marker line
  have key : ∀ t, feed {} (stuff true (t ++ [13, 10]) ++ ([46, 13, 10] ++ trail)) =
      ⟨t ++ [13, 10], [], true, trail⟩ := by
    intro t
    rw [feed_append, show t ++ [13, 10] = [] ++ (t ++ [13]) ++ [10] by simp, feed_stuff _ [] (by simp),
      feed_marker _ rfl rfl]
    simp
  unfold endMarker normalize CRLF
  by_cases hm : m = []
  · subst hm
    exact feed_marker {} rfl rfl trail
  by_cases hc : endsWith m [13, 10] = true
  · obtain ⟨t, rfl⟩ := endsWith_crlf.mp hc
    simpa [hc] using key t
  · have := key m
    rw [stuff_append] at this
    simpa [hc, hm, stuff] using this

/-- **Round trip and exact consumption.** For every message, split into sender parts at line
    boundaries, followed by any trailing bytes, delivered as any initial `recv_buffer` plus any
    sequence of non-empty `recv()` results: the reader returns the normalised message and what is
    left (new `recv_buffer` plus unread socket data) is exactly the trailing bytes. -/
theorem data_roundtrip (parts : List Bytes) (hb : LineBoundarySplit true parts)
    (trail buf0 : Bytes) (segs : List Bytes) (hne : ∀ s ∈ segs, s ≠ [])
    (hs : buf0 ++ segs.flatten = send parts ++ trail) :
    ∃ r, run buf0 segs = .ok r ∧ r.data = normalize parts.flatten ∧
      r.recvBuffer ++ r.unread.flatten = trail := by
  have := run_agrees buf0 segs hne
  rwa [hs, feed_send parts hb trail] at this

/-- The reader's observable result: `(data, recv_buffer ++ unread)` or the error. -/
def observable : Except Err Result → Except Err (Bytes × Bytes)
  | .ok r => .ok (r.data, r.recvBuffer ++ r.unread.flatten)
  | .error e => .error e

/-- **Segmentation independence.** Two deliveries of the same byte stream (any initial buffers,
    any cuts into non-empty reads) give the same data and leave the same bytes, for *every*
    stream, not only sender output. -/
theorem data_segmentation_independent (buf0 buf0' : Bytes) (segs segs' : List Bytes)
    (hne : ∀ s ∈ segs, s ≠ []) (hne' : ∀ s ∈ segs', s ≠ [])
    (h : buf0 ++ segs.flatten = buf0' ++ segs'.flatten) :
    observable (run buf0 segs) = observable (run buf0' segs') := by
  rcases agrees_same (run_agrees buf0 segs hne) (h ▸ run_agrees buf0' segs' hne') with ⟨r, r', e, e', hd, ha⟩ | ⟨e, e'⟩
  · simp [e, e', observable, hd, ha]
  · rw [e, e']

/-- The reader never returns before a complete end-of-data line has arrived (it asks for more
    input instead), so content is never cut short by segmentation. -/
theorem no_result_without_eod (buf0 : Bytes) (segs : List Bytes) (hne : ∀ s ∈ segs, s ≠ [])
    (h : (feed {} (buf0 ++ segs.flatten)).eod = false) :
    run buf0 segs = .error .wouldBlock := by
  have := run_agrees buf0 segs hne
  rwa [Agrees, h] at this

/-! ### non-vacuity: the hypotheses are met by concrete non-trivial values -/

example : LineBoundarySplit true [[46, 97, 10], [], [46, 46, 13, 10], [97]] := by
  simp [LineBoundarySplit]

example : ∃ r, run [46, 46] [[97, 10, 46], [46, 46, 13, 10, 97, 13, 10, 46], [13, 10, 81]] = .ok r ∧
    r.data = [46, 97, 10, 46, 46, 13, 10, 97, 13, 10] ∧ r.recvBuffer ++ r.unread.flatten = [81] :=
  data_roundtrip [[46, 97, 10], [], [46, 46, 13, 10], [97]] (by simp [LineBoundarySplit]) [81] [46, 46]
    [[97, 10, 46], [46, 46, 13, 10, 97, 13, 10, 46], [13, 10, 81]] (by simp) (by decide)

end Slimta.C05
