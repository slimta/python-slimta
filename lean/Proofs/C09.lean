import Proofs.Lemmas.Server
/-!
# C09 — server behaviour does not depend on how client bytes are segmented or pipelined

Model: `Model/Server.lean` (`Server.handle`, `IO.recv_line`/`recv_command`, `DataReader` through `Model/Data.lean`, the AUTH
exchange). A connection is a receive buffer plus any list of non-empty `recv()` results; two connections that will deliver the
same bytes (`Same`) go through the command loop in step (`loop_same` of `Lemmas/Server.lean`), each reader being a function
of the concatenated stream.
-/
namespace Slimta.C09
open Slimta.Server

/-- **The command loop is segmentation independent.** For every validator behaviour, every AUTH
    oracle, every server state and every two connections that deliver the same bytes (cut anywhere:
    inside a command, inside the message data, inside an AUTH response; with any part already in
    the receive buffer), the replies sent and the callbacks made (with their arguments, message
    content included), the way the session ends, the final state and the bytes left are equal. -/
theorem loop_segmentation_independent (v : Verdicts) (ao : AuthOracle) (fuel : Nat) (s : St)
    (acc : List Event) (a b : Stream) (h : Same a b) :
    RunEq (loop v ao fuel s a acc) (loop v ao fuel s b acc) :=
  loop_same v ao fuel s acc a b h

theorem go_same (v : Verdicts) (ao : AuthOracle) (fuel k : Nat) (s : St) (acc : List Event)
    (tls : List (List Bytes)) (a b : Stream) (h : Same a b) :
    RunEq (serve.go v ao fuel k s a tls acc) (serve.go v ao fuel k s b tls acc) := by
  induction k generalizing s acc tls a b with
  | zero => exact ⟨rfl, rfl, rfl, h.1⟩
  | succ k ih =>
    simp only [serve.go]
    obtain ⟨he, hend, hst, hrest⟩ := loop_same v ao fuel s acc a b h
    rw [← hend]
    split
    · cases tls with
      | nil => exact ⟨he, by simp, hst, hrest⟩
      | cons t ts =>
        simp only
        rw [← hst, ← he]
        exact ⟨rfl, rfl, rfl, rfl⟩
    · exact ⟨he, hend, hst, hrest⟩

/-- **Whole sessions** (banner, commands, message data, STARTTLS switch-over): delivered in any two
    segmentations of the same clear-text bytes, a session is the same. -/
theorem serve_segmentation_independent (cfg : Cfg) (v : Verdicts) (ao : AuthOracle)
    (tls : List (List Bytes)) (a b : Stream) (h : Same a b) :
    RunEq (serve cfg v ao a tls) (serve cfg v ao b tls) := by
  simp only [serve]
  split
  · exact ⟨rfl, rfl, rfl, h.1⟩
  · rw [h.1]
    exact go_same v ao _ _ _ _ tls a b h

/-- **Message content is never executed as commands, commands are never swallowed into content**:
    the callback trace (which carries the content of every message and every command argument)
    is a function of the byte stream alone. In particular a body holding command-looking lines
    gives the same trace when it arrives in one burst with the commands around it as when it
    arrives byte by byte. -/
theorem events_function_of_bytes (cfg : Cfg) (v : Verdicts) (ao : AuthOracle) (tls : List (List Bytes))
    (bytes : Bytes) (segsA segsB : List Bytes) (bufA bufB : Bytes)
    (hA : bufA ++ segsA.flatten = bytes) (hB : bufB ++ segsB.flatten = bytes)
    (nA : NoEmpty segsA) (nB : NoEmpty segsB) :
    (serve cfg v ao ⟨bufA, segsA⟩ tls).events = (serve cfg v ao ⟨bufB, segsB⟩ tls).events :=
  (serve_segmentation_independent cfg v ao tls ⟨bufA, segsA⟩ ⟨bufB, segsB⟩
    ⟨hA.trans hB.symm, nA, nB⟩).1

/-! ### non-vacuity -/

example : Same ⟨[69, 72], [[76, 79, 32], [120, 13, 10, 81]]⟩ ⟨[], [[69], [72, 76, 79, 32, 120, 13], [10, 81]]⟩ := by
  refine ⟨by decide, ?_, ?_⟩ <;> intro x hx <;> simp at hx <;> rcases hx with rfl | rfl | rfl <;> simp

end Slimta.C09
