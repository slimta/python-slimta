import Model.Client
import Proofs.Lemmas.Server
import Proofs.C17
/-!
# C08 — nothing crosses the STARTTLS boundary; AUTH only when permitted

Over `Model/Server.lean` and, for the client side, `Model/Client.lean` (`starttls`). TLS itself is an opaque byte pipe that
starts empty (partial): what is proved is what the server and the client do around it. The AUTH theorems are read off
`stepAuth_cases` and `authExchange_cases` of `Lemmas/Server.lean`.
-/
namespace Slimta.C08
open Slimta.Server

/-- **After the handshake nothing received before it is used**: the session continues on the TLS
    stream with an empty receive buffer and the just-greeted state; whatever clear-text bytes were
    left (in the buffer or in flight) do not occur in the continuation at all. -/
theorem handshake_discards_cleartext (v : Verdicts) (ao : AuthOracle) (fuel k : Nat) (s : St) (st : Stream)
    (t : List Bytes) (ts : List (List Bytes)) (acc : List Event)
    (h : (loop v ao fuel s st acc).ending = "tls") :
    serve.go v ao fuel (k + 1) s st (t :: ts) acc =
      serve.go v ao fuel k (afterTls (loop v ao fuel s st acc).state).1 ⟨[], t⟩ ts
        ((loop v ao fuel s st acc).events ++ (afterTls (loop v ao fuel s st acc).state).2) := by
  simp [serve.go, h]

/-- …and the state it continues in is the just-greeted one: no EHLO identity, no sender, no
    recipient, no envelope, STARTTLS no longer offered, the channel marked encrypted. -/
theorem handshake_resets (s : St) :
    (afterTls s).1.ehloAs = none ∧ (afterTls s).1.haveMail = .unset ∧ (afterTls s).1.haveRcpt = .unset ∧
    (afterTls s).1.envelope = none ∧ (afterTls s).1.extTls = false ∧ (afterTls s).1.encrypted = true := by
  simp [afterTls]

/-- **AUTH is refused when not permitted**: the SASL exchange is entered only when AUTH is offered,
    an EHLO was accepted, the session is not yet authenticated and no transaction is open. -/
theorem auth_entered_only_when_permitted (s : St) (arg : Option Bytes) (m : Bytes) (i : Option Bytes)
    (h : (stepAuth s arg).2.2 = .auth m i) :
    s.extAuth = true ∧ s.ehloAs.isSome = true ∧ s.authed = false ∧ s.haveMail.truthy = false := by
  rcases stepAuth_cases s arg with ⟨_, _, he⟩ | ⟨hp, _⟩
  · rw [he] at h; cases h
  · exact hp

/-- **Plain-text mechanisms need TLS; unknown mechanisms are refused**: the application sees an
    AUTH callback only on an encrypted session and only for PLAIN or LOGIN. -/
theorem auth_callback_needs_tls (v : Verdicts) (ao : AuthOracle) (s : St) (mech : Bytes) (initial : Option Bytes)
    (st : Stream) (s' : St) (evs : List Event) (nx : Next) (st' : Stream) (a b c : Bytes)
    (h : authExchange v ao s mech initial st = .ok (s', evs, nx, st')) (hc : .cb (.auth a b c) ∈ evs) :
    s.encrypted = true ∧ (mech = mPLAIN ∨ mech = mLOGIN) := by
  rcases authExchange_cases h with ⟨_, _, hn⟩ | ⟨he, hm, _⟩
  · exact absurd hc (hn _)
  · exact ⟨he, hm⟩

/-- **A malformed AUTH line never ends the session**: whatever its argument (none, unknown
    mechanism, junk), the server keeps reading commands or enters the exchange. -/
theorem malformed_auth_continues (s : St) (arg : Option Bytes) :
    (stepAuth s arg).2.2 = .continue_ ∨ ∃ m i, (stepAuth s arg).2.2 = .auth m i := by
  rcases stepAuth_cases s arg with ⟨_, _, he⟩ | ⟨_, m, i, he⟩ <;> rw [he]
  · exact .inl rfl
  · exact .inr ⟨m, i, rfl⟩

/-- …and neither does a bad response inside the exchange (cancel `*`, bad base64, a PLAIN response
    the mechanism cannot parse): an exchange that comes to an end lets the session go on or closes it
    (`finish` on the application's code), it never aborts. -/
theorem auth_exchange_never_aborts (v : Verdicts) (ao : AuthOracle) (s : St) (mech : Bytes) (initial : Option Bytes)
    (st : Stream) (s' : St) (evs : List Event) (nx : Next) (st' : Stream)
    (h : authExchange v ao s mech initial st = .ok (s', evs, nx, st')) : nx = .continue_ ∨ nx = .closed := by
  rcases authExchange_cases h with ⟨_, hn, _⟩ | ⟨_, _, _, _, _, _, he⟩
  · exact .inl hn
  · rw [show nx = _ from congrArg (·.2.2) he]; exact finish_next ..

/-- **Authenticated only after the application accepted**: the `authed` flag goes up only
    together with a `235` reply (the application's verdict on the AUTH callback). -/
theorem authed_only_after_235 (v : Verdicts) (ao : AuthOracle) (s : St) (mech : Bytes) (initial : Option Bytes)
    (st : Stream) (s' : St) (evs : List Event) (nx : Next) (st' : Stream)
    (h : authExchange v ao s mech initial st = .ok (s', evs, nx, st')) (h0 : s.authed = false)
    (h1 : s'.authed = true) : .reply 235 ∈ evs := by
  rcases authExchange_cases h with ⟨rfl, _⟩ | ⟨_, _, pre, a, b, c, he⟩
  · rw [h0] at h1; cases h1
  · have hs : s' = _ := congrArg (·.1) he
    rw [finish_state] at hs
    have hcode : (v s.ncb).getD 235 = 235 := by subst hs; simpa using h1
    rw [show evs = _ from congrArg (·.2.1) he, hcode]
    simp [finish]

/-- **Nothing crosses the STARTTLS boundary on the client side.** A client that owes no reply sends STARTTLS; the
    server's `220` arrives followed by any bytes at all in clear text (`junk`: forged replies, a half reply, anything).
    The client's state after the handshake — what it will read next, the replies it has filled — is the same whatever
    `junk` was: it reads from the TLS stream with an empty buffer. -/
theorem client_handshake_discards_cleartext (s : Client.St) (hq : s.queue = []) (hf : s.failed = none) (hfresh : ∀ e ∈ s.filled, e.1 < s.next) (m : Bytes)
    (hu : Reply.utf8Ok (normCRLF m) = true) (junk junk' : Bytes) (tls : List Bytes) :
    Client.starttls { s with buf := Reply.encode [50, 50, 48] m ++ junk, segs := [] } tls =
    Client.starttls { s with buf := Reply.encode [50, 50, 48] m ++ junk', segs := [] } tls := by
  have key : ∀ j : Bytes, Client.starttls { s with buf := Reply.encode [50, 50, 48] m ++ j, segs := [] } tls =
      { s with queue := [], next := s.next + 1, filled := s.filled ++ [(s.next, [50, 50, 48], normCRLF m)], buf := [], segs := tls } := by
    intro j
    obtain ⟨r, hr, hcode, hbody, hrest⟩ := Slimta.C17.reply_roundtrip [50, 50, 48] ⟨50, 50, 48, rfl, by decide, by decide, by decide⟩ (by decide) m hu j
      (Reply.encode [50, 50, 48] m ++ j) [] (by simp) (by simp)
    simp only [Client.starttls, Client.call, hf, Option.isSome_none, Bool.false_eq_true, if_false, Client.enqueue, hq, List.nil_append, Client.flushNow,
      List.length_cons, List.length_nil, Client.flush, hr]
    have hlook : Client.lookupFilled s.next (s.filled ++ [(s.next, r.code, r.body)]) = some (r.code, r.body) := by
      unfold Client.lookupFilled
      rw [List.find?_append]
      have hnone : s.filled.find? (fun x => x.1 == s.next) = none := by
        rw [List.find?_eq_none]
        intro e he
        have := hfresh e he
        simp; omega
      simp [hnone]
    rw [hlook]
    simp [hcode, hbody]
  rw [key junk, key junk']

end Slimta.C08
