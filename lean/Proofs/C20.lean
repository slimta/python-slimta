import Model.Envelope
import Proofs.Lemmas.Bytes
/-!
# C20 — Envelope parsing keeps the body byte-exact and the headers intact

For the part of `Envelope.parse`/`flatten` that is slimta's own logic (the header/body boundary, CRLF regeneration, the 8-bit
refusal). CPython's `email` package is modelled on the well-formed domain only and validated there by the correspondence
campaign (partial). A header block is a list of `Line`s; the boundary search `findB` passes a well-formed line and stops at
the blank one.
-/
namespace Slimta.C20
open Slimta.Envelope

/-- One header line: content and line ending. Well-formed (`Line.WF`): no CR or LF in the content, at least one non-white-space byte
    — i.e. neither blank nor a white-space-only continuation line —, ending LF or CRLF. -/
structure Line where
  content : Bytes
  eol : Bytes

def Line.WF (l : Line) : Prop :=
  (∀ b ∈ l.content, b ≠ 10 ∧ b ≠ 13) ∧ (∃ b ∈ l.content, isWs b = false) ∧ (l.eol = [10] ∨ l.eol = [13, 10])

def block (ls : List Line) : Bytes := (ls.map fun l => l.content ++ l.eol).flatten

theorem wsThenLF_content (c x : Bytes) (h1 : ∀ b ∈ c, b ≠ 10 ∧ b ≠ 13) (h2 : ∃ b ∈ c, isWs b = false) :
    wsThenLF (c ++ x) = none := by
  induction c with
  | nil => obtain ⟨b, hb, _⟩ := h2; simp at hb
  | cons a r ih =>
    have ha := h1 a (by simp)
    simp only [List.cons_append, wsThenLF]
    have : (a == 10) = false := by simp [ha.1]
    simp only [this, Bool.false_eq_true, if_false]
    by_cases hw : isWs a = true
    · simp only [hw, if_true]
      apply ih (fun b hb => h1 b (by simp [hb]))
      obtain ⟨b, hb, hbw⟩ := h2
      simp at hb
      rcases hb with rfl | hb
      · rw [hw] at hbw; simp at hbw
      · exact ⟨b, hb, hbw⟩
    · simp [hw]

theorem findB_content (c X : Bytes) (h1 : ∀ b ∈ c, b ≠ 10 ∧ b ≠ 13) :
    findB (c ++ X) = (findB X).map fun (h, p) => (c ++ h, p) := by
  induction c with
  | nil => cases hX : findB X <;> simp [hX]
  | cons a r ih =>
    have ha := h1 a (by simp)
    have ht : tryAt (a :: (r ++ X)) = none := by
      unfold tryAt
      split
      · rename_i heq; simp at heq; exact absurd heq.1 ha.2
      · rename_i heq; simp at heq; exact absurd heq.1 ha.1
      · rfl
    simp only [List.cons_append, findB, ht, ih (fun b hb => h1 b (by simp [hb]))]
    cases findB X <;> simp

theorem findB_eol_line (eol : Bytes) (he : eol = [10] ∨ eol = [13, 10]) (c Y : Bytes)
    (h1 : ∀ b ∈ c, b ≠ 10 ∧ b ≠ 13) (h2 : ∃ b ∈ c, isWs b = false) :
    findB (eol ++ (c ++ Y)) = (findB (c ++ Y)).map fun (h, p) => (eol ++ h, p) := by
  have hw := wsThenLF_content c Y h1 h2
  rcases he with rfl | rfl <;> simp only [List.cons_append, List.nil_append, findB, tryAt, hw] <;>
    cases findB (c ++ Y) <;> simp

theorem findB_eol_blank (eol nl body : Bytes) (he : eol = [10] ∨ eol = [13, 10])
    (hn : nl = [10] ∨ nl = [13, 10]) :
    findB (eol ++ (nl ++ body)) = some (eol ++ nl, body) := by
  have ht : tryAt (eol ++ (nl ++ body)) = some body := by
    rcases he with rfl | rfl <;> rcases hn with rfl | rfl <;> rfl
  obtain ⟨b, r, e⟩ : ∃ b r, eol ++ (nl ++ body) = b :: r := by
    rcases he with rfl | rfl <;> exact ⟨_, _, rfl⟩
  rw [e, findB, ← e, ht, ← List.append_assoc]
  have : (eol ++ nl ++ body).length - body.length = (eol ++ nl).length := by simp; omega
  simp only [this, List.take_left]

theorem block_cons (l : Line) (ls : List Line) (x : Bytes) :
    block (l :: ls) ++ x = l.content ++ (l.eol ++ (block ls ++ x)) := by
  simp [block]

theorem findB_eol_block (ls : List Line) (hwf : ∀ l ∈ ls, l.WF) (eol nl body : Bytes)
    (he : eol = [10] ∨ eol = [13, 10]) (hn : nl = [10] ∨ nl = [13, 10]) :
    findB (eol ++ (block ls ++ (nl ++ body))) = some (eol ++ (block ls ++ nl), body) := by
  induction ls generalizing eol with
  | nil => simpa [block] using findB_eol_blank eol nl body he hn
  | cons l rest ih =>
    obtain ⟨h1, h2, he'⟩ := hwf l (by simp)
    rw [block_cons, findB_eol_line eol he _ _ h1 h2, findB_content _ _ h1,
      ih (fun x hx => hwf x (by simp [hx])) _ he', block_cons]
    rfl

/-- **The boundary is the first blank line, and nothing else.** For every well-formed header
    block, LF or CRLF (or mixed) line endings, and *every* body byte string, the header/body split
    is exact: header data = the block and the blank line, payload = the body bytes unchanged. -/
theorem boundary_exact (ls : List Line) (hne : ls ≠ []) (hwf : ∀ l ∈ ls, l.WF) (nl body : Bytes)
    (hn : nl = [10] ∨ nl = [13, 10]) :
    findB (block ls ++ (nl ++ body)) = some (block ls ++ nl, body) := by
  cases ls with
  | nil => exact absurd rfl hne
  | cons l rest =>
    obtain ⟨h1, _, he⟩ := hwf l (by simp)
    rw [block_cons, findB_content _ _ h1,
      findB_eol_block rest (fun x hx => hwf x (by simp [hx])) _ _ _ he hn, block_cons]
    rfl

/-- The same block with every line ending made CRLF. -/
def crlfLines (ls : List Line) : List Line := ls.map fun l => { l with eol := [13, 10] }

theorem normGo_block (ls : List Line) (hwf : ∀ l ∈ ls, l.WF) (x : Bytes) :
    normGo false (block ls ++ x) = block (crlfLines ls) ++ normGo false x := by
  induction ls with
  | nil => rfl
  | cons l rest ih =>
    obtain ⟨h1, _, he⟩ := hwf l (by simp)
    -- the content holds no CR, so `normGo` meets the line ending with its flag down
    have hcr : (if l.content = [] then false else l.content.getLast? == some 13) = false := by
      split
      · rfl
      · exact beq_false_of_ne fun h => (h1 13 (List.mem_of_getLast? h)).2 rfl
    rw [block_cons, normGo_noLF _ (fun b hb => (h1 b hb).1), hcr, crlfLines, List.map_cons, block_cons,
      ← crlfLines, ← ih (fun y hy => hwf y (by simp [hy]))]
    rcases he with he | he <;> rw [he] <;> simp [normGo]

theorem crlfLines_wf (ls : List Line) (hwf : ∀ l ∈ ls, l.WF) : ∀ l ∈ crlfLines ls, l.WF := by
  intro l hl
  simp [crlfLines] at hl
  obtain ⟨l0, h0, rfl⟩ := hl
  obtain ⟨h1, h2, _⟩ := hwf l0 h0
  exact ⟨h1, h2, Or.inr rfl⟩

/-- **parse then flatten.** Header data = the original header block with every line ending turned
    into CRLF (same lines, same order, same content) plus the CRLF blank line; body = the original
    body bytes. -/
theorem parse_flatten (ls : List Line) (hne : ls ≠ []) (hwf : ∀ l ∈ ls, l.WF) (nl body : Bytes)
    (hn : nl = [10] ∨ nl = [13, 10]) :
    parseFlatten (block ls ++ (nl ++ body)) = (block (crlfLines ls) ++ [13, 10], body) := by
  unfold parseFlatten
  rw [boundary_exact ls hne hwf nl body hn]
  simp only [normCRLF]
  rw [normGo_block ls hwf nl]
  rcases hn with rfl | rfl <;> simp [normGo]

/-- **Re-parsing the flattened output is a fixed point.** -/
theorem reparse_fixed_point (ls : List Line) (hne : ls ≠ []) (hwf : ∀ l ∈ ls, l.WF) (nl body : Bytes)
    (hn : nl = [10] ∨ nl = [13, 10]) :
    let out := parseFlatten (block ls ++ (nl ++ body))
    parseFlatten (out.1 ++ out.2) = out := by
  simp only [parse_flatten ls hne hwf nl body hn]
  have hne' : crlfLines ls ≠ [] := by simpa [crlfLines] using hne
  have := parse_flatten (crlfLines ls) hne' (crlfLines_wf ls hwf) [13, 10] body (Or.inr rfl)
  rw [List.append_assoc, this]
  have hid : crlfLines (crlfLines ls) = crlfLines ls := by
    simp [crlfLines, Function.comp_def]
  rw [hid]

/-- **7-bit conversion without an encoder** refuses exactly the bodies that hold 8-bit data and
    leaves the others untouched. -/
theorem encode7bit_none (body : Bytes) :
    (isAscii body = false → encode7bitNoEncoder body = none) ∧
    (isAscii body = true → encode7bitNoEncoder body = some body) := by
  constructor <;> intro h <;> simp [encode7bitNoEncoder, h]

/-! ### non-vacuity -/

example : (⟨[83, 58, 32, 97], [10]⟩ : Line).WF ∧ (⟨[9, 98, 32], [13, 10]⟩ : Line).WF := by
  refine ⟨⟨by decide, ⟨83, by decide, by decide⟩, Or.inl rfl⟩, ⟨by decide, ⟨98, by decide, by decide⟩, Or.inr rfl⟩⟩

example : parseFlatten ([83, 58, 32, 97, 10, 9, 98, 32, 13, 10] ++ ([10] ++ [10, 0, 46, 13]))
    = ([83, 58, 32, 97, 13, 10, 9, 98, 32, 13, 10, 13, 10], [10, 0, 46, 13]) := by decide

end Slimta.C20
