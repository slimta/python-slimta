import Proofs.Lemmas.Server
/-!
# C07 — the SMTP server enforces command order and resets transaction state

About `Server.step` (one received command line), `afterData`, `afterTls` and `banner` of `Model/Server.lean`, for every validator
behaviour (`Verdicts`), every state and every command line. Each handler's definition is walked once (`Does`): the walk gives
the shape of what it sends and calls (`Shape`, with the callbacks the protocol order allows) together with what it does to the
transaction (`Txn`); the theorems are read off. The last part carries the envelope `SmtpSession` keeps beside the server's
flags (`EnvInv`) through a whole session.
-/
namespace Slimta.C07
open Slimta.Server

/-- When the server may make a callback: the protocol order. -/
def Allowed (s : St) : Cb → Prop
  | .mail _ _ => s.ehloAs.isSome = true ∧ s.haveMail.truthy = false
  | .rcpt _ _ => s.haveMail.truthy = true
  | .data => s.haveMail.truthy = true ∧ s.haveRcpt.truthy = true
  | .ehlo _ | .helo _ => s.bannered = true
  | .starttls => s.extTls = true ∧ s.ehloAs.isSome = true
  | .rset | .noop | .quit => True
  | .custom name _ => name ∈ s.custom          -- a command the application defined: any time
  | _ => False

/-- What one command may put on the wire / call (`ok`: which callbacks are admissible). -/
inductive Shape (ok : Cb → Prop) : List Event → Next → Prop
  | rejected (code : Nat) (nx : Next) : code ∈ [500, 501, 503, 504, 552] → (nx = .continue_ ∨ nx = .aborted) →
      Shape ok [.reply code] nx
  | authPending (m : Bytes) (i : Option Bytes) : Shape ok [] (.auth m i)
  | called (c : Cb) (code : Nat) (nx : Next) : ok c → code ≠ 221 → code ≠ 421 → (nx = .continue_ ∨ nx = .data ∨ nx = .tls) →
      Shape ok [.cb c, .reply code] nx
  | calledClose (c : Cb) (code : Nat) : ok c → (code = 221 ∨ code = 421) → Shape ok [.cb c, .reply code, .cb .close] .closed


theorem finish_shape (ok : Cb → Prop) (s : St) (c : Cb) (code : Nat) (hok : ok c) :
    Shape ok (finish s [.cb c] code).2.1 (finish s [.cb c] code).2.2 := by
  simp only [finish]
  split
  · rename_i h; simp at h
    exact Shape.calledClose c code hok h
  · rename_i h; simp at h
    exact Shape.called c code .continue_ hok h.1 h.2 (Or.inl rfl)

/-- The sender flag is left alone or cleared, not raised (`flags_raised_only_by_their_command`); `KeepsRcpt`: the same for the recipient flag. -/
def KeepsMail (s s' : St) : Prop := s'.haveMail = s.haveMail ∨ s'.haveMail = .unset
def KeepsRcpt (s s' : St) : Prop := s'.haveRcpt = s.haveRcpt ∨ s'.haveRcpt = .unset

/-- While the server holds an accepted sender the session holds an envelope; while it holds an accepted recipient the
    envelope has one (and a sender is held). -/
def EnvInv (s : St) : Prop :=
  (s.haveMail = .yes → s.envelope.isSome) ∧ (s.haveRcpt = .yes → ∃ f rs, s.envelope = some (f, rs) ∧ rs ≠ []) ∧
  (s.haveRcpt = .yes → s.haveMail = .yes)

/-- What everything but MAIL and RCPT does to the transaction — the two flags and `SmtpSession`'s envelope: nothing; or forget
    it; or drop the envelope and keep the flags — a RSET that a validator refuses, which does not happen with `SmtpSession`
    as handler (its RSET asks none). Nothing ever changes the kind of handler. -/
inductive Txn (s s' : St) : Prop
  | same : s'.haveMail = s.haveMail → s'.haveRcpt = s.haveRcpt → s'.envelope = s.envelope → s'.session = s.session → Txn s s'
  | forgot : s'.haveMail = .unset → s'.haveRcpt = .unset → s'.envelope = none → s'.session = s.session → Txn s s'
  | dropped : s.session = false → s'.haveMail = s.haveMail → s'.haveRcpt = s.haveRcpt → s'.session = s.session → Txn s s'

theorem Txn.refl (s : St) : Txn s s := .same rfl rfl rfl rfl

theorem Txn.session {s s' : St} (h : Txn s s') : s'.session = s.session := by cases h <;> assumption

theorem Txn.keeps {s s' : St} (h : Txn s s') : KeepsMail s s' ∧ KeepsRcpt s s' := by
  cases h with
  | same hm hr _ _ | dropped _ hm hr _ => exact ⟨.inl hm, .inl hr⟩
  | forgot hm hr _ _ => exact ⟨.inr hm, .inr hr⟩

theorem envInv_unset {s : St} (h1 : s.haveMail = .unset) (h2 : s.haveRcpt = .unset) : EnvInv s := by
  unfold EnvInv
  rw [h1, h2]
  exact ⟨nofun, nofun, nofun⟩

theorem Txn.envInv {s s' : St} (h : Txn s s') (hs : s.session = true) (hi : EnvInv s) : EnvInv s' := by
  cases h with
  | same hm hr he _ => unfold EnvInv at *; rw [hm, hr, he]; exact hi
  | forgot hm hr _ _ => exact envInv_unset hm hr
  | dropped hn _ _ _ => rw [hs] at hn; cases hn

theorem Txn.inv {s s' : St} (h : Txn s s') (hi : EnvInv s ∧ s.session = true) : EnvInv s' ∧ s'.session = true :=
  ⟨h.envInv hi.2 hi.1, h.session.trans hi.2⟩

theorem Txn.of_bumped {s s' : St} (h : Bumped s s') : Txn s s' := by
  rcases h with rfl | rfl <;> exact .same rfl rfl rfl rfl

/-- What MAIL (`other := St.haveRcpt`) and RCPT (`other := St.haveMail`) do to the transaction: the other command's flag and
    the kind of handler stay, and the session's envelope stays in step with the flags. -/
def Adds (s : St) (other : St → Tri) (s' : St) : Prop := other s' = other s ∧ s'.session = s.session ∧ (EnvInv s → EnvInv s')

/-- How `_command_MAIL` / `_command_RCPT` set their flag: it is up afterwards only if it was before or the command was accepted. -/
theorem raised {cur : Tri} {code : Nat}
    (h : (if (code == 221 || code == 421) = true then cur else if (cur.truthy || code == 250) = true then .yes else .no) = Tri.yes) :
    cur = .yes ∨ (code == 250) = true := by
  split at h
  · exact .inl h
  · split at h
    · rename_i hc; simpa [truthy_iff] using hc
    · cases h

/-- What is shown of a handler's result `r` in one walk over its definition: events and continuation have the `Shape` the protocol
    order allows, and the new state satisfies `R`. As a predicate of `r` alone it passes through `if` by `iteInduction`, so that
    no walk has to `split` a handler's body. -/
def Does (s : St) (R : St → Prop) (r : St × List Event × Next) : Prop := Shape (Allowed s) r.2.1 r.2.2 ∧ R r.1

theorem Does.refuse {s : St} {R : St → Prop} {code : Nat} {nx : Next} (h : R s) (hc : code ∈ [500, 501, 503, 504, 552] := by decide)
    (hn : nx = .continue_ ∨ nx = .aborted := by decide) : Does s R (s, [.reply code], nx) :=
  ⟨.rejected code nx hc hn, h⟩

theorem Does.finish {s s' : St} {R : St → Prop} {c : Cb} {code : Nat} (hok : Allowed s c) (h : R s') :
    Does s R (finish s' [.cb c] code) :=
  ⟨finish_shape _ s' c code hok, (finish_state ..).symm ▸ h⟩

/-- `_command_STARTTLS` and `_command_DATA` answer their own way: the default code `d` leads on (`nx`), a closing code closes. -/
theorem Does.reply3 {s s' : St} {R : St → Prop} {c : Cb} {code d : Nat} {nx : Next} (hok : Allowed s c) (h : R s')
    (hnx : nx = .data ∨ nx = .tls) (hd : d ≠ 221 ∧ d ≠ 421 := by decide) :
    Does s R (if (code == 221 || code == 421) = true then (s', [Event.cb c] ++ [.reply code, .cb .close], Next.closed)
              else if (code == d) = true then (s', [.cb c] ++ [.reply d], nx) else (s', [.cb c] ++ [.reply code], .continue_)) :=
  iteInduction (fun hc => ⟨.calledClose c code hok (by simpa using hc), h⟩) fun hc =>
    have hc : code ≠ 221 ∧ code ≠ 421 := by simpa using hc
    iteInduction (fun _ => ⟨.called c d nx hok hd.1 hd.2 (.inr hnx), h⟩) fun _ => ⟨.called c code .continue_ hok hc.1 hc.2 (.inl rfl), h⟩

theorem stepHello_does (v s isE arg) : Does s (Txn s) (stepHello v s isE arg) := by
  unfold stepHello callback
  refine iteInduction (fun _ => .refuse (.refl s)) fun hb => ?_
  cases arg with
  | none => exact .refuse (.refl s)
  | some a =>
    refine iteInduction (fun _ => .refuse (.refl s)) fun _ => iteInduction (fun _ => .refuse (.refl s)) fun _ => .finish ?_ ?_
    · cases isE <;> exact (by simpa using hb : s.bannered = true)
    · split
      · exact .forgot rfl rfl rfl rfl
      · exact .same rfl rfl rfl rfl

theorem stepHello_shape (v : Verdicts) (s : St) (isE : Bool) (arg : Option Bytes) :
    Shape (Allowed s) (stepHello v s isE arg).2.1 (stepHello v s isE arg).2.2 :=
  (stepHello_does v s isE arg).1

theorem stepStartTls_does (v s arg) : Does s (Txn s) (stepStartTls v s arg) := by
  unfold stepStartTls callback
  exact iteInduction (fun _ => .refuse (.refl s)) fun h1 => iteInduction (fun _ => .refuse (.refl s)) fun _ =>
    iteInduction (fun _ => .refuse (.refl s)) fun h2 =>
      .reply3 ⟨by simpa using h1, by simpa [Option.isSome_iff_ne_none] using h2⟩ (.same rfl rfl rfl rfl) (.inr rfl)

theorem stepStartTls_shape (v : Verdicts) (s : St) (arg : Option Bytes) :
    Shape (Allowed s) (stepStartTls v s arg).2.1 (stepStartTls v s arg).2.2 :=
  (stepStartTls_does v s arg).1

theorem stepAuth_does (s arg) : Does s (Txn s) (stepAuth s arg) := by
  rcases stepAuth_cases s arg with ⟨code, hc, he⟩ | ⟨_, m, i, he⟩ <;> rw [he]
  · exact .refuse (.refl s) (List.mem_append_left [552] hc)
  · exact ⟨.authPending m i, .refl s⟩

theorem stepAuth_shape (s : St) (arg : Option Bytes) : Shape (Allowed s) (stepAuth s arg).2.1 (stepAuth s arg).2.2 :=
  (stepAuth_does s arg).1

theorem mailAccepted_does (v : Verdicts) (s : St) (addr : Bytes) (ps) (hok : Allowed s (.mail addr ps)) :
    Does s (Adds s St.haveRcpt) (mailAccepted v s addr ps) := by
  unfold mailAccepted callback
  refine .finish hok ⟨rfl, rfl, fun h => ?_⟩
  have hny : s.haveMail ≠ .yes := fun he => by have := hok.2; rw [he] at this; cases this
  refine ⟨fun hy => ?_, fun hy => absurd (h.2.2 hy) hny, fun hy => absurd (h.2.2 hy) hny⟩
  rcases raised hy with h1 | h1
  · exact absurd h1 hny
  · simp [h1]

theorem mailAccepted_shape (v : Verdicts) (s : St) (addr : Bytes) (ps) (hok : Allowed s (.mail addr ps)) :
    Shape (Allowed s) (mailAccepted v s addr ps).2.1 (mailAccepted v s addr ps).2.2 :=
  (mailAccepted_does v s addr ps hok).1

theorem stepMail_does (v s arg) : Does s (Adds s St.haveRcpt) (stepMail v s arg) := by
  have h0 : Adds s St.haveRcpt s := ⟨rfl, rfl, id⟩
  unfold stepMail
  rcases arg with _ | a
  · exact .refuse h0
  dsimp only
  rcases matchPrefix kwFROM a with _ | afterLt
  · exact .refuse h0
  dsimp only
  rcases splitAddr false afterLt with _ | ⟨addr, rest⟩
  · exact .refuse h0
  refine iteInduction (fun _ => .refuse h0) fun _ => iteInduction (fun _ => .refuse h0) fun he => iteInduction (fun _ => .refuse h0) fun hm => ?_
  have ok := fun ps => mailAccepted_does v s addr ps ⟨by simpa [Option.isSome_iff_ne_none] using he, by simpa using hm⟩
  rcases lookupParam kwSIZE _ with _ | sv
  · exact ok _
  dsimp only
  rcases sizeValue sv with _ | size
  · exact .refuse h0
  dsimp only
  rcases s.extSize with _ | m
  · exact .refuse h0
  · exact iteInduction (fun _ => .refuse h0) fun _ => ok _

theorem stepRcpt_does (v s arg) : Does s (Adds s St.haveMail) (stepRcpt v s arg) := by
  have h0 : Adds s St.haveMail s := ⟨rfl, rfl, id⟩
  unfold stepRcpt callback
  rcases arg with _ | a
  · exact .refuse h0
  dsimp only
  rcases matchPrefix kwTO a with _ | afterLt
  · exact .refuse h0
  dsimp only
  rcases splitAddr false afterLt with _ | ⟨addr, rest⟩
  · exact .refuse h0
  refine iteInduction (fun _ => .refuse h0) fun _ => iteInduction (fun _ => .refuse h0) fun hm => ?_
  have hy : s.haveMail = .yes := (truthy_iff _).mp (by simpa using hm)
  refine .finish ((truthy_iff _).mpr hy) ⟨rfl, rfl, fun h => ?_⟩
  obtain ⟨⟨f, r0⟩, hfr⟩ := Option.isSome_iff_exists.mp (h.1 hy)
  by_cases h2 : ((v s.ncb).getD 250 == 250) = true
  · exact ⟨fun _ => by simp [h2, hfr], fun _ => ⟨f, r0 ++ [addr], by simp [h2, hfr], by simp⟩, fun _ => hy⟩
  · exact ⟨fun _ => by simpa [h2] using h.1 hy, fun hr => by simpa [h2] using h.2.1 ((raised hr).resolve_right h2), fun _ => hy⟩

theorem stepData_does (v s arg) : Does s (Bumped s) (stepData v s arg) := by
  unfold stepData callback
  exact iteInduction (fun _ => .refuse (.inl rfl)) fun _ => iteInduction (fun _ => .refuse (.inl rfl)) fun h =>
    .reply3 (by simpa [Allowed] using h) (.inr rfl) (.inl rfl)

theorem stepRset_does (v s arg) : Does s (Txn s) (stepRset v s arg) := by
  obtain ⟨s1, code, he, hs, hc⟩ := optCallback v s .rset 250
  simp only [stepRset, he]
  refine iteInduction (fun _ => .refuse (.refl s)) fun _ => .finish trivial ?_
  have ht := Txn.of_bumped hs
  split
  · exact .forgot rfl rfl rfl ht.session
  · rename_i hn
    have hp : s.session = false := by cases hp : s.session <;> simp [hc, hp] at hn ⊢
    rcases hs with rfl | rfl <;> exact .dropped hp rfl rfl rfl

theorem stepNoop_does (v s) : Does s (Txn s) (stepNoop v s) := by
  obtain ⟨s1, code, he, hs, _⟩ := optCallback v s .noop 250
  simp only [stepNoop, he]
  exact .finish trivial (.of_bumped hs)

theorem stepQuit_does (v s arg) : Does s (Txn s) (stepQuit v s arg) := by
  obtain ⟨s1, code, he, hs, _⟩ := optCallback v s .quit 221
  simp only [stepQuit, he]
  exact iteInduction (fun _ => .refuse (.refl s)) fun _ => .finish trivial (.of_bumped hs)

theorem stepCustom_does (v s name arg) (h : name ∈ s.custom) : Does s (Txn s) (stepCustom v s name arg) := by
  unfold stepCustom callback
  exact .finish h (.same rfl rfl rfl rfl)

/-- Every command but MAIL and RCPT `Does` `Txn`; these two `Does` `Adds`. -/
theorem step_does_cases {P : St × List Event × Next → Prop} (v : Verdicts) (s : St) (name : Bytes) (arg : Option Bytes)
    (txn : ∀ r, Does s (Txn s) r → P r) (mail : cmdIs name "MAIL" = true → ∀ r, Does s (Adds s St.haveRcpt) r → P r)
    (rcpt : cmdIs name "RCPT" = true → ∀ r, Does s (Adds s St.haveMail) r → P r) : P (step v s (some (name, arg))) :=
  step_cases v s name arg (fun isE => txn _ (stepHello_does v s isE arg)) (txn _ (stepStartTls_does v s arg))
    (txn _ (stepAuth_does s arg)) (fun h => mail h _ (stepMail_does v s arg)) (fun h => rcpt h _ (stepRcpt_does v s arg))
    (txn _ ⟨(stepData_does v s arg).1, .of_bumped (stepData_does v s arg).2⟩) (txn _ (stepRset_does v s arg))
    (txn _ (stepNoop_does v s)) (txn _ (stepQuit_does v s arg)) (fun h => txn _ (stepCustom_does v s name arg h))
    (txn _ (.refuse (.refl s)))

/-- **Every command line gets exactly one final reply** (`354`/`220`-before-handshake count as the
    reply of that line; an AUTH exchange that still has to run has sent nothing yet), **an error reply
    produced by the server itself comes with no callback**, and **a 221/421 reply ends the session**
    with the CLOSE callback and nothing after it. -/
theorem step_shape (v : Verdicts) (s : St) (cmd : Option (Bytes × Option Bytes)) :
    Shape (Allowed s) (step v s cmd).2.1 (step v s cmd).2.2 := by
  rcases cmd with _ | ⟨name, arg⟩
  · exact .rejected 500 .continue_ (by decide) (.inl rfl)
  · exact step_does_cases (P := fun r => Shape (Allowed s) r.2.1 r.2.2) v s name arg (fun _ h => h.1) (fun _ _ h => h.1)
      fun _ _ h => h.1

def replies (evs : List Event) : List Nat := evs.filterMap fun e => match e with | .reply c => some c | _ => none
def callbacks (evs : List Event) : List Cb := evs.filterMap fun e => match e with | .cb c => some c | _ => none

theorem Shape.one_reply {ok : Cb → Prop} {evs : List Event} {nx : Next} (hs : Shape ok evs nx) :
    (replies evs).length = 1 ∨ ∃ m i, nx = .auth m i ∧ evs = [] := by
  cases hs with
  | authPending m i => exact .inr ⟨m, i, rfl, rfl⟩
  | _ => exact .inl rfl

theorem Shape.close_code {ok : Cb → Prop} {evs : List Event} {nx : Next} (hs : Shape ok evs nx) {code : Nat}
    (hc : code = 221 ∨ code = 421) (h : code ∈ replies evs) : nx = .closed ∧ evs.getLast? = some (.cb .close) := by
  cases hs with
  | rejected c nx hm _ =>
    obtain rfl : code = c := by simpa [replies] using h
    rcases hc with rfl | rfl <;> simp at hm
  | authPending m i => simp [replies] at h
  | called c cd nx _ h1 h2 _ =>
    obtain rfl : code = cd := by simpa [replies] using h
    exact (hc.elim h1 h2).elim
  | calledClose c cd _ _ => simp

theorem Shape.no_callback {ok : Cb → Prop} {evs : List Event} {nx : Next} (hs : Shape ok evs nx) (h : callbacks evs = []) :
    (∃ code, code ∈ [500, 501, 503, 504, 552] ∧ evs = [.reply code]) ∨ ∃ m i, nx = .auth m i := by
  cases hs with
  | rejected code nx hm _ => exact .inl ⟨code, hm, rfl⟩
  | authPending m i => exact .inr ⟨m, i, rfl⟩
  | called | calledClose => simp [callbacks] at h

theorem Shape.allowed {ok : Cb → Prop} {evs : List Event} {nx : Next} {c : Cb} (hs : Shape ok evs nx) (h : .cb c ∈ evs) :
    c = .close ∨ ok c := by
  cases hs with
  | rejected code nx _ _ => simp at h
  | authPending m i => simp at h
  | called c' code nx hok _ _ _ => simp at h; subst h; exact Or.inr hok
  | calledClose c' code hok _ =>
    simp at h
    rcases h with rfl | rfl
    · exact Or.inr hok
    · exact Or.inl rfl

/-- Corollary: one reply per command line (none yet while an AUTH exchange is pending). -/
theorem one_final_reply (v : Verdicts) (s : St) (cmd : Option (Bytes × Option Bytes)) :
    (replies (step v s cmd).2.1).length = 1 ∨ (∃ m i, (step v s cmd).2.2 = .auth m i ∧ (step v s cmd).2.1 = []) :=
  (step_shape v s cmd).one_reply

/-- Corollary: a 221/421 reply closes; the CLOSE callback is the last event. -/
theorem close_code_closes (v : Verdicts) (s : St) (cmd : Option (Bytes × Option Bytes)) (code : Nat)
    (hc : code = 221 ∨ code = 421) (h : code ∈ replies (step v s cmd).2.1) :
    (step v s cmd).2.2 = .closed ∧ (step v s cmd).2.1.getLast? = some (.cb .close) :=
  (step_shape v s cmd).close_code hc h

/-- Corollary: a reply not preceded by a callback is one of the server's own error replies. -/
theorem rejected_without_callback (v : Verdicts) (s : St) (cmd : Option (Bytes × Option Bytes))
    (h : callbacks (step v s cmd).2.1 = []) :
    (∃ code, code ∈ [500, 501, 503, 504, 552] ∧ (step v s cmd).2.1 = [.reply code]) ∨
    (∃ m i, (step v s cmd).2.2 = .auth m i) :=
  (step_shape v s cmd).no_callback h

/-- **Callbacks are made only in protocol order**: whatever callback a command line causes, CLOSE apart, is
    admissible in the state the server was in (MAIL: EHLO/HELO accepted and no sender open; RCPT:
    a sender accepted; DATA: sender and recipient accepted; EHLO/HELO: greeting accepted). -/
theorem callbacks_in_order (v : Verdicts) (s : St) (cmd : Option (Bytes × Option Bytes)) (c : Cb)
    (h : .cb c ∈ (step v s cmd).2.1) : c = .close ∨ Allowed s c :=
  (step_shape v s cmd).allowed h

/-- After every message (accepted, rejected or too big) sender and recipients are forgotten. -/
theorem reset_after_message (v : Verdicts) (s : St) (content : Option Bytes) :
    (afterData v s content).1.haveMail = .unset ∧ (afterData v s content).1.haveRcpt = .unset ∧
    (afterData v s content).1.envelope = none := by
  simp [afterData, callback, finish_state]

/-- After a TLS handshake the server is back in its just-greeted state. -/
theorem reset_after_tls (s : St) :
    (afterTls s).1.ehloAs = none ∧ (afterTls s).1.haveMail = .unset ∧ (afterTls s).1.haveRcpt = .unset ∧
    (afterTls s).1.envelope = none ∧ (afterTls s).1.extTls = false := by
  simp [afterTls]

/-- An accepted RSET forgets sender and recipients (and the session's envelope). -/
theorem reset_after_rset (v : Verdicts) (s : St) (h : (v s.ncb).getD 250 = 250) :
    (stepRset v s none).1.haveMail = .unset ∧ (stepRset v s none).1.haveRcpt = .unset ∧
    (stepRset v s none).1.envelope = none := by
  by_cases hp : s.session = true <;> simp [stepRset, callback, finish_state, h, hp]

/-- An accepted EHLO/HELO forgets sender and recipients. -/
theorem reset_after_hello (v : Verdicts) (s : St) (isE : Bool) (a : Bytes) (hb : s.bannered = true)
    (ha : a ≠ []) (hu : utf8 a = true) (h : (v s.ncb).getD 250 = 250) :
    (stepHello v s isE (some a)).1.haveMail = .unset ∧ (stepHello v s isE (some a)).1.haveRcpt = .unset ∧
    (stepHello v s isE (some a)).1.envelope = none := by
  simp [stepHello, callback, finish_state, h, hb, ha, hu]

/-- **No command other than MAIL raises the sender flag, none other than RCPT the recipient flag**
    (they leave the flag alone or clear it), for every command line. -/
theorem flags_raised_only_by_their_command (v : Verdicts) (s : St) (name : Bytes) (arg : Option Bytes) :
    (¬ cmdIs name "MAIL" = true → KeepsMail s (step v s (some (name, arg))).1) ∧
    (¬ cmdIs name "RCPT" = true → KeepsRcpt s (step v s (some (name, arg))).1) :=
  step_does_cases (P := fun r => (¬ cmdIs name "MAIL" = true → KeepsMail s r.1) ∧ (¬ cmdIs name "RCPT" = true → KeepsRcpt s r.1))
    v s name arg (fun _ h => ⟨fun _ => h.2.keeps.1, fun _ => h.2.keeps.2⟩)
    (fun hm _ h => ⟨(absurd hm ·), fun _ => .inl h.2.1⟩) (fun hr _ h => ⟨fun _ => .inl h.2.1, (absurd hr ·)⟩)

-- "FROM:<a>" accepted after EHLO; refused (503, no callback) before it
example : (stepMail (fun _ => none) { bannered := true, ehloAs := some [97], extTls := false, extAuth := false, extSize := none }
    (some [70, 82, 79, 77, 58, 60, 97, 62])).2.1 = [.cb (.mail [97] []), .reply 250] := by decide

example : (stepMail (fun _ => none) { bannered := true, extTls := false, extAuth := false, extSize := none }
    (some [70, 82, 79, 77, 58, 60, 97, 62])).2.1 = [.reply 503] := by decide

/-! ## SmtpSession's own copy of the transaction (edge/smtp.py)

`SmtpSession` keeps the envelope under construction next to the server's `have_mailfrom` / `have_rcptto` flags and relies on the
server's command gating: `RCPT` and `HAVE_DATA` `assert self.envelope is not None`, `HAVE_DATA` hands `self.envelope` to the queue,
and the envelope is NOT cleared when a message is refused at the end of DATA. This is sound for a handler whose RSET leaves the
reply alone (`session`: SmtpSession.RSET consults no validator): `EnvInv` holds through every command, message, handshake and
AUTH exchange of a session, so the asserts never fire and no message is handed to the queue without a recipient. -/

/-- **One command keeps the session's envelope in step with the server's transaction flags.** -/
theorem envInv_step (v : Verdicts) (s : St) (cmd : Option (Bytes × Option Bytes)) (h : EnvInv s) (hr : s.session = true) :
    EnvInv (step v s cmd).1 := by
  rcases cmd with _ | ⟨name, arg⟩
  · exact h
  · exact step_does_cases (P := fun r => EnvInv r.1) v s name arg (fun _ ht => ht.2.envInv hr h) (fun _ _ ha => ha.2.2.2 h)
      fun _ _ ha => ha.2.2.2 h

theorem keep_step (v : Verdicts) (s : St) (cmd : Option (Bytes × Option Bytes)) : (step v s cmd).1.session = s.session := by
  rcases cmd with _ | ⟨name, arg⟩
  · rfl
  · exact step_does_cases (P := fun r => r.1.session = s.session) v s name arg (fun _ h => h.2.session) (fun _ _ h => h.2.2.1)
      fun _ _ h => h.2.2.1

theorem afterData_txn (v s c) : Txn s (afterData v s c).1 :=
  have ⟨h1, h2, h3⟩ := reset_after_message v s c
  .forgot h1 h2 h3 (by by_cases hc : (s.session && c.isNone) = true <;> simp [afterData, callback, finish_state, hc])

theorem authExchange_txn {v ao s mech i st s' evs nx st'} (h : authExchange v ao s mech i st = .ok (s', evs, nx, st')) :
    Txn s s' := by
  rcases authExchange_cases h with ⟨rfl, _⟩ | ⟨_, _, pre, a, b, c, he⟩
  · exact .refl _
  · have := congrArg Prod.fst he
    rw [finish_state] at this
    subst this
    exact .same rfl rfl rfl rfl

theorem envInv_afterData (v : Verdicts) (s : St) (content : Option Bytes) : EnvInv (afterData v s content).1 :=
  have ⟨h1, h2, _⟩ := reset_after_message v s content
  envInv_unset h1 h2

/-- **`assert self.envelope is not None` in `SmtpSession.RCPT` never fires**: whenever the server makes the RCPT callback (it
    does so only with an accepted sender), the session holds an envelope. -/
theorem rcpt_callback_has_envelope (v : Verdicts) (s : St) (arg : Option Bytes) (h : EnvInv s) (addr : Bytes) (ps)
    (hcb : Event.cb (.rcpt addr ps) ∈ (stepRcpt v s arg).2.1) : s.envelope.isSome :=
  h.1 ((truthy_iff _).mp (((stepRcpt_does v s arg).1.allowed hcb).resolve_left nofun))

/-- **`assert self.envelope is not None` in `SmtpSession.HAVE_DATA` never fires, and the envelope it hands to the queue has a
    recipient**: when DATA is answered 354 (the message is read next and HAVE_DATA follows in the same state), the session holds
    an envelope with at least one recipient. -/
theorem data_accepted_has_envelope (v : Verdicts) (s : St) (arg : Option Bytes) (h : EnvInv s)
    (hd : (stepData v s arg).2.2 = .data) :
    ∃ f rs, (stepData v s arg).1.envelope = some (f, rs) ∧ rs ≠ [] := by
  have hr : s.haveRcpt = .yes := by
    by_cases hf : (!s.haveMail.truthy || !s.haveRcpt.truthy) = true
    · exfalso
      simp only [stepData] at hd
      by_cases ha : arg.isSome = true <;> simp [ha, hf] at hd
    · simp only [Bool.or_eq_true, Bool.not_eq_true', not_or, Bool.not_eq_false] at hf
      exact (truthy_iff _).mp hf.2
  rcases (stepData_does v s arg).2 with he | he <;> rw [he] <;> exact h.2.1 hr

theorem envInv_preserved (v : Verdicts) (ao : AuthOracle) : Preserved v ao fun s => EnvInv s ∧ s.session = true where
  step s cmd hi := ⟨envInv_step v s cmd hi.1 hi.2, (keep_step v s cmd).trans hi.2⟩
  data s c := (afterData_txn v s c).inv
  auth hi he := (authExchange_txn he).inv hi
  tls s := (Txn.forgot (s := s) (s' := (afterTls s).1) rfl rfl rfl rfl).inv

/-- **Through a whole session loop** (any number of commands, messages and AUTH exchanges, any verdicts of the validators, any
    segmentation): the session's envelope stays in step with the server's transaction flags. -/
theorem envInv_loop (v : Verdicts) (ao : AuthOracle) (fuel : Nat) (s : St) (st : Stream) (acc : List Event)
    (hp : s.session = true) (h : EnvInv s) :
    EnvInv (loop v ao fuel s st acc).state ∧ (loop v ao fuel s st acc).state.session = true :=
  (envInv_preserved v ao).of_loop fuel s st acc ⟨h, hp⟩

/-- **A whole edge session** — banner, any commands, messages, AUTH exchanges and STARTTLS handshakes, any verdicts of the
    validators, any segmentation of the client's bytes: in the state the session ends in, the envelope `SmtpSession` holds is in
    step with the server's transaction flags. -/
theorem envInv_serve (cfg : Cfg) (hc : cfg.session = true) (v : Verdicts) (ao : AuthOracle) (st : Stream) (tlsStreams : List (List Bytes)) :
    EnvInv (serve cfg v ao st tlsStreams).state :=
  ((envInv_preserved v ao).of_serve cfg (by simp only [banner, callback, finish_state]; exact ⟨envInv_unset rfl rfl, hc⟩) st tlsStreams).1

/-- non-vacuity: a refused message leaves the envelope behind (`HAVE_DATA` returns early), and the invariant still holds -/
example : EnvInv { (initSt ⟨false, false, none, false, [], true⟩) with envelope := some ([97], [[98]]) } := envInv_unset rfl rfl

end Slimta.C07
