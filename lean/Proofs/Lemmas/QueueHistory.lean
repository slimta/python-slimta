import Proofs.Lemmas.QueueM
/-!
Histories of the composed queue machine with the labels taken (`ReachT`), and what a history cannot undo: the recipients a
message was accepted with (`orig`) are written by its `write` step and never rewritten, for an id the storage holds or the queue
knows. A run of `QM.run` over labels that ask nothing of the environment (`quiet`) is such a history.
-/
namespace Slimta.QM
open Slimta.Attempt

/-- `Reach` with the labels taken so far (oldest first). -/
inductive ReachT (fb : Bool) (q0 : State) : List Label → State → Prop
  | init : ReachT fb q0 [] q0
  | step {ls : List Label} {q q' : State} {l : Label} :
      ReachT fb q0 ls q → calm q l → step fb q l = some q' → ReachT fb q0 (ls ++ [l]) q'

theorem ReachT.reach {fb : Bool} {q0 q : State} {ls : List Label} (h : ReachT fb q0 ls q) : Reach fb q0 q := by
  induction h with
  | init => exact Reach.init
  | step _ hc hs ih => exact Reach.step ih hc hs

/-- Only a `write` touches what a message was accepted with, and only for an id the queue has never heard of. -/
theorem step_orig {fb : Bool} {q q' : State} {l : Label} (h : step fb q l = some q') :
    q'.orig = q.orig ∧ q'.nonNull = q.nonNull ∨
    ∃ id ts r nn, l = .write id ts r nn ∧ q'.orig = upd q.orig id (some r) ∧ q'.nonNull = upd q.nonNull id nn ∧ id ∉ q.s.known ∧
      id ∉ Sched.sIds q.s := by
  cases step_eff h with
  | write _ hnk hid _ _ => exact Or.inr ⟨_, _, _, _, rfl, rfl, rfl, hnk, hid⟩
  | _ => exact Or.inl ⟨rfl, rfl⟩

theorem step_orig_seen {fb : Bool} {q q' : State} {l : Label} (h : step fb q l = some q') {id : Nat} (hs : seen q.s id) :
    q'.orig id = q.orig id ∧ q'.nonNull id = q.nonNull id := by
  rcases step_orig h with e | ⟨id', _, _, _, _, e1, e2, hnk, hns⟩
  · rw [e.1, e.2]; exact ⟨rfl, rfl⟩
  · have : id ≠ id' := fun e => hs.elim (e ▸ hns) (e ▸ hnk)
    rw [e1, e2, upd_ne _ _ this, upd_ne _ _ this]; exact ⟨rfl, rfl⟩

/-- **A write is for good**: once the storage has taken an envelope, in every later state of every history the queue machine
    still knows the message by the recipients it was accepted with. -/
theorem write_recorded {fb : Bool} {q0 q : State} {ls : List Label} (hr : ReachT fb q0 ls q) {id ts : Nat} {r : List Rcpt}
    {nn : Bool} (hm : Label.write id ts r nn ∈ ls) : q.orig id = some r ∧ q.nonNull id = nn ∧ id ∈ q.s.known := by
  induction hr with
  | init => simp at hm
  | @step ls q q' l hprev hc hs ih =>
    rcases List.mem_append.mp hm with hm | hm
    · obtain ⟨ho, hn, hk⟩ := ih hm
      obtain ⟨e1, e2⟩ := step_orig_seen hs (Or.inr hk)
      exact ⟨e1.trans ho, e2.trans hn, sched_known_mono (step_sched hs) hk⟩
    · cases List.mem_singleton.mp hm
      cases step_eff hs with
      | write _ _ _ hk _ => exact ⟨upd_same .., upd_same .., hk⟩
      | same _ hl => exact hl.elim
      | handoff _ hl => exact hl.elim

theorem reach_orig {fb : Bool} {q0 q : State} (hr : Reach fb q0 q) (hinv : Inv fb q0) {id : Nat} (hs : seen q0.s id) :
    q.orig id = q0.orig id ∧ seen q.s id :=
  reach_induct_inv (P := fun q => q.orig id = q0.orig id ∧ seen q.s id) hinv ⟨rfl, hs⟩
    (fun _ hI ih _ hstep => ⟨(step_orig_seen hstep ih.2).1.trans ih.1, seen_step hI.sched (step_sched hstep) ih.2⟩) hr

/-- **What a message was accepted with is never rewritten**: for an id the storage holds or the queue knows at the start, in
    every later state of every history `orig` is what it was (a second `write` of the id is impossible: the scheduler refuses the
    write of a stored or known id, and a stored id leaves the storage only through a removal the queue itself decided, which
    makes it known for good). -/
theorem orig_of_start {fb : Bool} {q0 q : State} {ls : List Label} (hT : ReachT fb q0 ls q) (hinv : Inv fb q0) {id : Nat}
    {r : List Rcpt} (h0 : q0.orig id = some r) (hs : id ∈ Sched.sIds q0.s ∨ id ∈ q0.s.known) :
    q.orig id = some r ∧ (id ∈ Sched.sIds q.s ∨ id ∈ q.s.known) ∧ Inv fb q :=
  have h := reach_orig hT.reach hinv hs
  ⟨h.1.trans h0, h.2, reach_inv_from hinv hT.reach⟩

theorem reach_orig_pre {fb : Bool} {pre : List (Nat × Nat)} {rc : Nat → List Rcpt} {nn : Nat → Bool} {att : Nat → Nat}
    (hpre : (pre.map (·.1)).Nodup) (hrc : ∀ id ∈ pre.map (·.1), (rc id).Nodup) {q : State}
    (hr : Reach fb (startAt pre rc nn att) q) {id : Nat} (hid : id ∈ pre.map (·.1)) : q.orig id = some (rc id) :=
  (reach_orig hr (inv_startAt fb pre rc nn att hpre hrc) (.inl hid)).1.trans ((startAt_orig ..).trans (if_pos hid))

/-- Labels whose calmness asks nothing of the environment. -/
def quiet : Label → Prop
  | .announce _ _ => False
  | .done _ _ => False
  | _ => True

theorem calm_of_quiet {q : State} {l : Label} (h : quiet l) : calm q l := by
  cases l <;> simp only [quiet] at h <;> trivial

/-- A run of `QM.run` over quiet labels is a history. -/
theorem reachT_of_run {fb : Bool} {q0 : State} : ∀ (ls : List Label) (pre : List Label) (q1 q : State),
    ReachT fb q0 pre q1 → (∀ l ∈ ls, quiet l) → run fb q1 ls = some q → ReachT fb q0 (pre ++ ls) q
  | [], pre, q1, q, h, _, hrun => by
    simp only [run, Option.some.injEq] at hrun; subst hrun; simpa using h
  | l :: ls, pre, q1, q, h, hq, hrun => by
    simp only [run] at hrun
    split at hrun
    · rename_i q2 hs
      have h2 := ReachT.step h (calm_of_quiet (hq l (by simp))) hs
      have := reachT_of_run ls (pre ++ [l]) q2 q h2 (fun x hx => hq x (by simp [hx])) hrun
      simpa using this
    · simp at hrun

end Slimta.QM
