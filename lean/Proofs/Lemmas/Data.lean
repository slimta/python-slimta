import Model.Data
import Proofs.Lemmas.Bytes
/-! `addLines` is the byte-wise left fold `feed` (`addLines_eq_feed`), so `recvLoop` over any
  segmentation agrees with `feed` over the concatenated stream (`recvLoop_spec`), and two deliveries of
  one stream give the same result (`agrees_same`).
  Sender against reader goes by lines: `feed` finishes a line at each LF (`feed_line`), a stuffed
  line is not the end-of-data line and un-stuffs to the line (`stuff_line`), so complete lines come
  through unchanged (`feed_stuff`). -/
namespace Slimta.Data

theorem feed_nil (s : RS) : feed s [] = s := rfl
theorem feed_cons (s : RS) (b : Byte) (bs : Bytes) : feed s (b :: bs) = feed (feedByte s b) bs := rfl
theorem feed_append (s : RS) (a b : Bytes) : feed s (a ++ b) = feed (feed s a) b := by
  simp [feed, List.foldl_append]

theorem feed_eod (s : RS) (h : s.eod = true) (p : Bytes) :
    feed s p = { s with after := s.after ++ p } := by
  induction p generalizing s with
  | nil => simp [feed]
  | cons b rest ih =>
    rw [feed_cons, feedByte, if_pos h, ih]
    · simp
    · exact h

theorem finishLine_cur (s : RS) (c line : Bytes) :
    finishLine { s with cur := c } line = finishLine s line := by
  simp [finishLine]

theorem step_other (s : RS) (he : s.eod = false) (b : Byte) (hb : b ≠ 10) :
    feedByte s b = { s with cur := s.cur ++ [b] } := by
  simp [feedByte, he, hb]

theorem feed_noLF (p : Bytes) (s : RS) (hn : ∀ b ∈ p, b ≠ 10) (he : s.eod = false) :
    feed s p = { s with cur := s.cur ++ p } := by
  induction p generalizing s with
  | nil => simp [feed]
  | cons b rest ih =>
    rw [feed_cons, step_other s he b (hn b (by simp)),
      ih { s with cur := s.cur ++ [b] } (fun c hc => hn c (by simp [hc])) he]
    simp

theorem feed_line (s : RS) (he : s.eod = false) (a : Bytes) (ha : ∀ b ∈ a, b ≠ 10) (r : Bytes) :
    feed s (a ++ 10 :: r) = feed (finishLine s (s.cur ++ (a ++ [10]))) r := by
  rw [feed_append, feed_noLF a s ha he, feed_cons, feedByte, if_neg (by simp [he]), if_pos (by decide),
    finishLine_cur, List.append_assoc]

theorem addLines_eq_feed (s : RS) (p : Bytes) : addLines s p = feed s p := by
  fun_induction addLines s p with
  | case1 s p he => rw [feed_eod s he]
  | case2 s p he hn => rw [feed_noLF p s (splitLF_none hn) (by simpa using he)]
  | case3 s p he l r hs _ ih =>
    obtain ⟨a, rfl, ha, rfl⟩ := splitLF_some hs
    rw [ih, feed_line s (by simpa using he) a ha]

/-- What the reader must produce, given the fold over everything that will arrive. -/
def Agrees (whole : RS) (res : Except Err Result) : Prop :=
  if whole.eod then ∃ r, res = .ok r ∧ r.data = whole.data ∧ r.recvBuffer ++ r.unread.flatten = whole.after
  else res = .error .wouldBlock

theorem recvLoop_spec (segs : List Bytes) (s : RS) (hne : ∀ x ∈ segs, x ≠ []) :
    Agrees (feed s segs.flatten) (recvLoop s segs) := by
  induction segs generalizing s with
  | nil => cases he : s.eod <;> simp [Agrees, recvLoop, feed_nil, he]
  | cons piece rest ih =>
    by_cases he : s.eod = true
    · rw [feed_eod s he]
      simp [Agrees, recvLoop, he]
    · have hp : piece ≠ [] := hne piece (by simp)
      have hstep : recvLoop s (piece :: rest) = recvLoop (addLines s piece) rest := by
        simp [recvLoop, he, hp]
      rw [hstep, List.flatten_cons, feed_append, addLines_eq_feed]
      exact ih (feed s piece) (fun x hx => hne x (by simp [hx]))

theorem run_agrees (buf0 : Bytes) (segs : List Bytes) (hne : ∀ x ∈ segs, x ≠ []) :
    Agrees (feed {} (buf0 ++ segs.flatten)) (run buf0 segs) := by
  rw [feed_append, ← addLines_eq_feed {} buf0]
  exact recvLoop_spec segs _ hne

theorem agrees_same {whole : RS} {x y : Except Err Result} (hx : Agrees whole x) (hy : Agrees whole y) :
    (∃ r r', x = .ok r ∧ y = .ok r' ∧ r.data = r'.data ∧
      r.recvBuffer ++ r.unread.flatten = r'.recvBuffer ++ r'.unread.flatten) ∨
    x = .error .wouldBlock ∧ y = .error .wouldBlock := by
  unfold Agrees at hx hy
  split at hx
  · rw [if_pos ‹_›] at hy
    obtain ⟨r, e, hd, hr⟩ := hx
    obtain ⟨r', e', hd', hr'⟩ := hy
    exact .inl ⟨r, r', e, e', hd.trans hd'.symm, hr.trans hr'.symm⟩
  · exact .inr ⟨hx, (if_neg ‹_›).mp hy⟩

@[simp] theorem unstuffLine_nil : unstuffLine [] = [] := rfl

theorem unstuffLine_append (c : Bytes) (hc : c ≠ []) (x : Bytes) :
    unstuffLine (c ++ x) = unstuffLine c ++ x := by
  cases c with
  | nil => exact absurd rfl hc
  | cons b r =>
    by_cases hb : b = 46
    · subst hb; rfl
    · simp [unstuffLine, hb]

theorem stuff_append (f : Bool) (p q : Bytes) :
    stuff f (p ++ q) = stuff f p ++ stuff (if p = [] then f else p.getLast? == some 10) q := by
  induction p generalizing f with
  | nil => simp [stuff]
  | cons b rest ih =>
    rw [lastIs_cons]
    simp only [List.cons_append, stuff]
    split
    · -- a doubled dot: `b` is 46, not LF
      rename_i h
      rw [ih false, show (b == 10) = false by simp at h; simp [h.2]]; rfl
    · rw [ih (b == 10)]; rfl

theorem stuff_noLF (a : Bytes) (ha : ∀ b ∈ a, b ≠ 10) : stuff false a = a := by
  induction a with
  | nil => rfl
  | cons b r ih =>
    have hb : (b == 10) = false := by simpa using ha b (by simp)
    rw [stuff, Bool.false_and, if_neg (by decide), hb, ih (fun c hc => ha c (by simp [hc]))]

/-- A stuffed line: still a line, not the end-of-data line, and un-stuffed to the line it was (only a leading dot was doubled). -/
theorem stuff_line (a : Bytes) (ha : ∀ b ∈ a, b ≠ 10) :
    (∀ b ∈ stuff true a, b ≠ 10) ∧ isEodLine (stuff true a ++ [10]) = false ∧
      unstuffLine (stuff true a ++ [10]) = a ++ [10] := by
  cases a with
  | nil => exact ⟨by simp [stuff], rfl, rfl⟩
  | cons b r =>
    rw [List.forall_mem_cons] at ha
    rw [stuff, beq_false_of_ne ha.1, stuff_noLF r ha.2, Bool.true_and]
    by_cases h46 : b = 46
    · subst h46
      rw [if_pos (by decide)]
      exact ⟨by simpa using ha.2, by simp [isEodLine, isWs], rfl⟩
    · rw [if_neg (by simpa using h46)]
      exact ⟨by simpa using ha, by simp [isEodLine, h46], by simp [unstuffLine, h46]⟩

theorem feed_marker (s : RS) (he : s.eod = false) (hcur : s.cur = []) (trail : Bytes) :
    feed s ([46, 13, 10] ++ trail) = { s with eod := true, cur := [], after := s.after ++ trail } := by
  rw [show [46, 13, 10] ++ trail = [46, 13] ++ 10 :: trail from rfl, feed_line s he _ (by decide), hcur,
    finishLine, if_pos (by decide), feed_eod _ rfl]

theorem feed_stuff_line (d af a : Bytes) (ha : ∀ b ∈ a, b ≠ 10) (r : Bytes) :
    feed ⟨d, [], false, af⟩ (stuff true a ++ 10 :: r) = feed ⟨d ++ (a ++ [10]), [], false, af⟩ r := by
  obtain ⟨h1, h2, h3⟩ := stuff_line a ha
  rw [feed_line _ rfl _ h1, List.nil_append, finishLine, if_neg (by simp [h2]), h3]

theorem stuff_lf (f : Bool) (a r : Bytes) : stuff f (a ++ 10 :: r) = stuff f a ++ 10 :: stuff true r := by
  rw [stuff_append]
  simp [stuff]

/-- `c` collects the line the induction is in. -/
theorem feed_stuff (t c : Bytes) (hc : ∀ b ∈ c, b ≠ 10) (d af : Bytes) :
    feed ⟨d, [], false, af⟩ (stuff true (c ++ t ++ [10])) = ⟨d ++ (c ++ t ++ [10]), [], false, af⟩ := by
  induction t generalizing c d with
  | nil => rw [List.append_nil, stuff_lf, feed_stuff_line d af c hc]; rfl
  | cons b rest ih =>
    by_cases hb : b = 10
    · subst hb
      rw [List.append_assoc, List.cons_append, stuff_lf, feed_stuff_line d af c hc,
        ← List.nil_append rest, ih [] (by simp)]
      simp
    · simpa using ih (c ++ [b]) (by simpa [or_imp, forall_and, hb] using hc) d

end Slimta.Data
