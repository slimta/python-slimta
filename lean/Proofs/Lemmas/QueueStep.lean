import Model.QueueM
import Proofs.Lemmas.Sched
/-!
What one step of the composed queue machine does, as an inductive relation (`Eff`, `step_spec`): a proof about a step is a
`cases step_eff hs`, with the new state, the guards and the scheduler's lists spelled out in each case. A step is about one
message (`Label.tgt`): for every other one nothing changes (`same_of_ne`).
-/
namespace Slimta.QM
open Slimta.Attempt
open Slimta.Sched (sIds without mem_without)

@[simp] theorem upd_same {α : Type} (f : Nat → α) (i : Nat) (v : α) : upd f i v i = v := by simp [upd]
theorem upd_ne {α : Type} (f : Nat → α) {i j : Nat} (v : α) (h : j ≠ i) : upd f i v j = f j := by simp [upd, h]

/-- The lists of the scheduler state the ledger invariant looks at. -/
structure View where
  rem : List Nat
  retry : List Nat
  retrying : List Nat
  inflight : List Nat
  written : List Nat
  ids : List Nat

def view (s : Sched.State) : View := ⟨s.rem, s.retry, s.retrying, s.inflight, s.written, sIds s⟩

theorem view_addQueued (s : Sched.State) (ts id : Nat) : view (Sched.addQueued s ts id) = view s := by
  unfold Sched.addQueued; split <;> rfl

theorem view_schedCut (s : Sched.State) : view (Sched.schedCut s) = view s := by
  simp only [Sched.schedCut]; split <;> rfl

theorem view_schedSleep (s : Sched.State) : view (Sched.schedSleep s) = view s := by
  simp only [Sched.schedSleep]; split
  · rfl
  · split <;> rfl

/-- The message a label is about. -/
def Label.tgt : Label → Option Nat
  | .write id .. | .activate id | .announce id _ | .dequeue id _ | .done id _ | .retry id _ | .requeue id | .remove id => some id
  | _ => none

/-- Labels that write nothing to the storage and report no result: all they can do to the ledger is a hand-off. -/
def Label.plain : Label → Prop
  | .write .. | .done .. | .retry .. | .requeue _ | .remove _ => False
  | _ => True

/-- The effect of a step: the new state written out, the lists the ledger looks at after the scheduler step (`view s'`), and what the
    guards of `Sched.step` / `QM.step` say. `same`: the six labels that touch neither storage nor the working lists, a `_dequeue` task
    that finds nothing to do, an `activate` of a message already active; `handoff`: enqueue's own (`m` is the envelope as accepted,
    attempts 0) and a `_dequeue` task's (`m` is what the storage holds). -/
inductive Eff (fb : Bool) (q : State) : Label → State → Prop
  | same {l : Label} {s' : Sched.State} (w' : List Nat) :
      l.plain → (∀ j ∈ w', j ∈ q.s.written) → view s' = ⟨q.s.rem, q.s.retry, q.s.retrying, q.s.inflight, w', sIds q.s⟩ →
      Eff fb q l { q with s := s' }
  | write {id ts : Nat} {rcpts : List Rcpt} {nn : Bool} {s' : Sched.State} :
      rcpts.Nodup → id ∉ q.s.known → id ∉ sIds q.s → id ∈ s'.known →
      view s' = ⟨q.s.rem, q.s.retry, q.s.retrying, q.s.inflight, id :: q.s.written, id :: sIds q.s⟩ →
      Eff fb q (.write id ts rcpts nn)
        { q with s := s', msgs := upd q.msgs id (some ⟨rcpts, 0⟩), orig := upd q.orig id (some rcpts),
                 nonNull := upd q.nonNull id nn, delivered := upd q.delivered id [], failed := upd q.failed id [],
                 bounces := upd q.bounces id [] }
  | handoff {l : Label} {id : Nat} {m : Msg} {s' : Sched.State} (w' : List Nat) :
      l.plain → l.tgt = some id → (∀ j ∈ w', j ∈ q.s.written) → id ∉ q.s.active →
      (q.msgs id = some m ∨ id ∈ q.s.written ∧ m.attempts = 0 ∧ q.orig id = some m.rcpts) →
      view s' = ⟨q.s.rem, q.s.retry, q.s.retrying, id :: q.s.inflight, w', sIds q.s⟩ →
      Eff fb q l { q with s := s', flight := upd q.flight id (some m), handed := (id, m.rcpts, m.attempts) :: q.handed }
  | done {id : Nat} {o : Outcome} {m : Msg} {s' : Sched.State} :
      q.flight id = some m → id ∈ q.s.inflight →
      view s' = (if (phase1 (fb && q.nonNull id) m o).pend.isNone
                 then ⟨id :: q.s.rem, q.s.retry, q.s.retrying, without q.s.inflight id, q.s.written, sIds q.s⟩
                 else ⟨q.s.rem, id :: q.s.retry, q.s.retrying, without q.s.inflight id, q.s.written, sIds q.s⟩) →
      Eff fb q (.done id o)
        { q with s := s', flight := upd q.flight id none, pend := upd q.pend id (phase1 (fb && q.nonNull id) m o).pend,
                 delivered := upd q.delivered id (q.delivered id ++ (phase1 (fb && q.nonNull id) m o).delivered),
                 failed := upd q.failed id (q.failed id ++ (phase1 (fb && q.nonNull id) m o).failed),
                 bounces := upd q.bounces id (q.bounces id ++ (phase1 (fb && q.nonNull id) m o).bounces) }
  | retryNone {id : Nat} {pd : Pend} {m : Msg} {s' : Sched.State} :
      q.pend id = some pd → q.msgs id = some m → id ∈ q.s.retry →
      view s' = ⟨id :: q.s.rem, without q.s.retry id, q.s.retrying, q.s.inflight, q.s.written, sIds q.s⟩ →
      Eff fb q (.retry id none)
        { q with s := s', msgs := upd q.msgs id (some { m with attempts := m.attempts + 1 }), pend := upd q.pend id none,
                 failed := upd q.failed id (q.failed id ++ (giveUp (fb && q.nonNull id) m.rcpts pd).1),
                 bounces := upd q.bounces id (q.bounces id ++ (giveUp (fb && q.nonNull id) m.rcpts pd).2) }
  | retrySome {id w : Nat} {pd : Pend} {m : Msg} {s' : Sched.State} :
      q.pend id = some pd → q.msgs id = some m → id ∈ q.s.retry →
      view s' = ⟨q.s.rem, without q.s.retry id, id :: q.s.retrying, q.s.inflight, q.s.written, sIds q.s⟩ →
      Eff fb q (.retry id (some w)) { q with s := s', msgs := upd q.msgs id (some { m with attempts := m.attempts + 1 }) }
  | requeue {id : Nat} {pd : Pend} {m : Msg} {s' : Sched.State} :
      q.pend id = some pd → q.msgs id = some m → id ∈ q.s.retrying →
      view s' = ⟨q.s.rem, q.s.retry, without q.s.retrying id, q.s.inflight, q.s.written, sIds q.s⟩ →
      Eff fb q (.requeue id)
        { q with s := s', msgs := upd q.msgs id (some { m with rcpts := pd.newRcpts m.rcpts }), pend := upd q.pend id none }
  | remove {id : Nat} {s' : Sched.State} (ids' : List Nat) :
      id ∈ q.s.rem → (∀ j, j ∈ ids' ↔ j ∈ sIds q.s ∧ j ≠ id) →
      view s' = ⟨without q.s.rem id, q.s.retry, q.s.retrying, q.s.inflight, q.s.written, ids'⟩ →
      Eff fb q (.remove id) { q with s := s', msgs := upd q.msgs id none }

theorem step_spec {fb : Bool} {q q' : State} {l : Label} (hs : step fb q l = some q') :
    Sched.step q.s (toSched fb q l) = some q'.s ∧ Eff fb q l q' := by
  unfold step at hs
  split at hs
  · simp at hs
  · rename_i s' hss
    have hS := Sched.step_cases hss
    have frame : ∀ {l : Label}, l.plain → view s' = view q.s → Eff fb q l { q with s := s' } :=
      fun hl hv => .same q.s.written hl (fun _ h => h) hv
    cases l with
    | announce id ts => cases hs; cases hS; exact ⟨hss, frame trivial (view_addQueued ..)⟩
    | sched => cases hs; cases hS; exact ⟨hss, frame trivial (view_schedCut _)⟩
    | sleep => cases hs; cases hS; exact ⟨hss, frame trivial (view_schedSleep _)⟩
    | tick _ | poke | flush => cases hs; cases hS; exact ⟨hss, frame trivial rfl⟩
    | write id ts rcpts nn =>
      simp only at hs
      split at hs
      · rename_i hcond
        simp only [Bool.and_eq_true, decide_eq_true_eq] at hcond
        cases hs
        cases hS with | write _ _ hnk hid _ => exact ⟨hss, .write hcond.1 hnk hid (List.mem_cons_self ..) rfl⟩
      · simp at hs
    | activate id =>
      simp only at hs
      cases hS with
      | activateActive _ hw ha =>
        rw [if_pos (List.contains_iff_mem.mpr ha)] at hs
        cases hs
        exact ⟨hss, .same _ trivial (fun j hj => (mem_without.mp hj).1) rfl⟩
      | activate _ hw hna =>
        rw [if_neg (mt List.contains_iff_mem.mp hna)] at hs
        split at hs
        · rename_i r hr
          cases hs
          exact ⟨hss, .handoff (m := ⟨r, 0⟩) _ trivial rfl (fun j hj => (mem_without.mp hj).1) hna (.inr ⟨hw, rfl, hr⟩) rfl⟩
        · simp at hs
    | dequeue id c =>
      simp only at hs
      cases hS with
      | dequeueSkip _ _ _ hskip =>
        rw [if_pos (by simpa [Sched.tsOf_none] using hskip)] at hs
        cases hs
        exact ⟨hss, frame trivial rfl⟩
      | dequeue _ _ _ hst hna =>
        rw [if_neg (by simpa [Sched.tsOf_none] using And.intro hst hna)] at hs
        split at hs
        · rename_i m hm
          cases hs
          exact ⟨hss, .handoff _ trivial rfl (fun _ h => h) hna (.inl hm) rfl⟩
        · simp at hs
    | done id o =>
      simp only at hs
      split at hs
      · simp at hs
      · rename_i p hp
        obtain ⟨m, hf, rfl⟩ := Option.map_eq_some_iff.mp hp
        cases hs
        cases hS with
        | done _ _ hin => exact ⟨hss, .done hf hin (by simp only [hp]; split <;> rfl)⟩
    | retry id w =>
      simp only at hs
      split at hs
      · rename_i pd m hpd hm
        cases w with
        | none => cases hs; cases hS with | retryNone _ hin => exact ⟨hss, .retryNone hpd hm hin rfl⟩
        | some w =>
          cases hs
          cases hS with | retrySome _ _ hin => exact ⟨hss, .retrySome hpd hm hin (by simp only [view, sIds, Sched.setTs_ids])⟩
      · simp at hs
    | requeue id =>
      simp only at hs
      split at hs
      · rename_i pd m hpd hm
        cases hs
        cases hS with | requeue _ _ hin _ => exact ⟨hss, .requeue hpd hm hin (view_addQueued ..)⟩
      · simp at hs
    | remove id =>
      cases hs
      cases hS with | remove _ hin => exact ⟨hss, .remove _ hin (fun j => Sched.mem_ids_filter) rfl⟩

theorem step_eff {fb : Bool} {q q' : State} {l : Label} (h : step fb q l = some q') : Eff fb q l q' := (step_spec h).2

/-- `q'` holds for message `j` what `q` holds for it (the list of written, not yet activated ids may have lost it). -/
structure Same (q q' : State) (j : Nat) : Prop where
  msgs : q'.msgs j = q.msgs j := by rfl
  orig : q'.orig j = q.orig j := by rfl
  nonNull : q'.nonNull j = q.nonNull j := by rfl
  flight : q'.flight j = q.flight j := by rfl
  pend : q'.pend j = q.pend j := by rfl
  delivered : q'.delivered j = q.delivered j := by rfl
  failed : q'.failed j = q.failed j := by rfl
  bounces : q'.bounces j = q.bounces j := by rfl
  handed : q'.handed.filter (·.1 == j) = q.handed.filter (·.1 == j) := by rfl
  rem : j ∈ q'.s.rem ↔ j ∈ q.s.rem
  retry : j ∈ q'.s.retry ↔ j ∈ q.s.retry
  retrying : j ∈ q'.s.retrying ↔ j ∈ q.s.retrying
  inflight : j ∈ q'.s.inflight ↔ j ∈ q.s.inflight
  written : j ∈ q'.s.written → j ∈ q.s.written
  ids : j ∈ sIds q'.s ↔ j ∈ sIds q.s

theorem same_of_view {q : State} {s' : Sched.State} {w' : List Nat} (hw : ∀ j ∈ w', j ∈ q.s.written)
    (hview : view s' = ⟨q.s.rem, q.s.retry, q.s.retrying, q.s.inflight, w', sIds q.s⟩) (j : Nat) : Same q { q with s := s' } j := by
  obtain ⟨e1, e2, e3, e4, e5, e6⟩ := View.mk.inj hview
  exact { rem := by rw [e1], retry := by rw [e2], retrying := by rw [e3], inflight := by rw [e4], written := e5 ▸ hw j, ids := by rw [e6] }

theorem same_of_ne {fb : Bool} {q q' : State} {l : Label} (h : Eff fb q l q') {j : Nat} (hj : l.tgt ≠ some j) : Same q q' j := by
  have ne : ∀ {id : Nat}, l.tgt = some id → j ≠ id := fun h e => hj (e ▸ h)
  have u : ∀ {α : Type} {id : Nat} (f : Nat → α) (v : α), l.tgt = some id → upd f id v j = f j := fun f v h => upd_ne f v (ne h)
  -- In every case the maps the step writes are updated at the label's id only (`u`; the maps not named are not written), the log
  -- gains at most a hand-off of that id, and the lists of the new view are those of the old one with that id put in front or
  -- taken out: the closing `simp` decides `j ∈ id :: l` and `j ∈ without l id` for `j ≠ id`.
  cases h with
  | same _ _ hw hview => exact same_of_view hw hview j
  | write _ _ _ _ hview =>
    obtain ⟨e1, e2, e3, e4, e5, e6⟩ := View.mk.inj hview
    refine { msgs := u _ _ rfl, orig := u _ _ rfl, nonNull := u _ _ rfl, delivered := u _ _ rfl, failed := u _ _ rfl,
             bounces := u _ _ rfl, rem := ?_, retry := ?_, retrying := ?_, inflight := ?_, written := ?_, ids := ?_ } <;>
      simp [e1, e2, e3, e4, e5, e6, ne rfl]
  | handoff _ _ ht hw _ _ hview =>
    obtain ⟨e1, e2, e3, e4, e5, e6⟩ := View.mk.inj hview
    refine { flight := u _ _ ht, handed := ?_, rem := ?_, retry := ?_, retrying := ?_, inflight := ?_, written := e5 ▸ hw j,
             ids := ?_ } <;>
      simp [e1, e2, e3, e4, e6, ne ht, Ne.symm (ne ht)]
  | done _ _ hview =>
    split at hview <;> obtain ⟨e1, e2, e3, e4, e5, e6⟩ := View.mk.inj hview <;>
      refine { flight := u _ _ rfl, pend := u _ _ rfl, delivered := u _ _ rfl, failed := u _ _ rfl, bounces := u _ _ rfl,
               rem := ?_, retry := ?_, retrying := ?_, inflight := ?_, written := ?_, ids := ?_ } <;>
      simp [e1, e2, e3, e4, e5, e6, mem_without, ne rfl]
  | retryNone _ _ _ hview =>
    obtain ⟨e1, e2, e3, e4, e5, e6⟩ := View.mk.inj hview
    refine { msgs := u _ _ rfl, pend := u _ _ rfl, failed := u _ _ rfl, bounces := u _ _ rfl,
             rem := ?_, retry := ?_, retrying := ?_, inflight := ?_, written := ?_, ids := ?_ } <;>
      simp [e1, e2, e3, e4, e5, e6, mem_without, ne rfl]
  | retrySome _ _ _ hview =>
    obtain ⟨e1, e2, e3, e4, e5, e6⟩ := View.mk.inj hview
    refine { msgs := u _ _ rfl, rem := ?_, retry := ?_, retrying := ?_, inflight := ?_, written := ?_, ids := ?_ } <;>
      simp [e1, e2, e3, e4, e5, e6, mem_without, ne rfl]
  | requeue _ _ _ hview =>
    obtain ⟨e1, e2, e3, e4, e5, e6⟩ := View.mk.inj hview
    refine { msgs := u _ _ rfl, pend := u _ _ rfl, rem := ?_, retry := ?_, retrying := ?_, inflight := ?_, written := ?_, ids := ?_ } <;>
      simp [e1, e2, e3, e4, e5, e6, mem_without, ne rfl]
  | remove _ _ hids hview =>
    obtain ⟨e1, e2, e3, e4, e5, e6⟩ := View.mk.inj hview
    refine { msgs := u _ _ rfl, rem := ?_, retry := ?_, retrying := ?_, inflight := ?_, written := ?_, ids := ?_ } <;>
      simp [e1, e2, e3, e4, e5, e6, hids, mem_without, ne rfl]

end Slimta.QM
