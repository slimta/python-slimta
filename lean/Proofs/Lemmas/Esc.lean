import Model.Reply
import Proofs.Lemmas.List
/-! The enhanced-status-code prefix parser of `Model/Reply.lean`, from both sides: what a match says of its parts
    (`matchEscPrefix_spec`: class 2/4/5, two groups of one to three digits, no white space left in front of the rest) and that a
    text of that shape is matched into those parts (`matchEscPrefix_of`), for any character classes that satisfy `ClassesOk`. -/
namespace Slimta.Reply

/-- What the proofs need of the character classes (true of Python's `\d` / `\s`). -/
structure ClassesOk (k : Classes) : Prop where
  dotNotDigit : k.isD '.' = false
  spaceIsSpace : k.isS ' ' = true
  digitNotSpace : ∀ c, k.isD c = true → k.isS c = false
  zeroDigit : k.isD '0' = true

def Digits3 (k : Classes) (d : Text) : Prop := d ≠ [] ∧ d.length ≤ 3 ∧ ∀ c ∈ d, k.isD c = true

theorem takeDigits3_spec {k : Classes} {t d r : Text} (h : takeDigits3 k t = some (d, r)) :
    t = d ++ r ∧ Digits3 k d := by
  revert h
  -- every branch answers `none` or a literal prefix of `t` whose members were just tested
  fun_cases takeDigits3 k t <;> intro h <;> cases h <;> simp [Digits3, *]

theorem takeDigits3_of {k : Classes} {d : Text} (hd : Digits3 k d) (x : Char) (r : Text) (hx : k.isD x = false) :
    takeDigits3 k (d ++ x :: r) = some (d, x :: r) := by
  obtain ⟨hne, hlen, hall⟩ := hd
  rcases d with _ | ⟨a, _ | ⟨b, _ | ⟨c, _ | _⟩⟩⟩
  · contradiction
  · cases r <;> simp [takeDigits3, hall, hx]
  · simp [takeDigits3, hall, hx]
  · simp [takeDigits3, hall]
  · simp at hlen

theorem matchEscPrefix_spec {k : Classes} {t : Text} {c : Char} {subj det rest : Text}
    (h : matchEscPrefix k t = some (c, subj, det, rest)) :
    (c = '2' ∨ c = '4' ∨ c = '5') ∧ Digits3 k subj ∧ Digits3 k det ∧ (∀ x, rest.head? = some x → k.isS x = false) := by
  revert h
  -- all branches but one answer `none`
  fun_cases matchEscPrefix k t <;> intro h <;> cases h
  next r1 r2 s r3 _ hc h1 h2 =>
    refine ⟨by simpa [or_assoc] using hc, (takeDigits3_spec h1).2, (takeDigits3_spec h2).2, fun x hx => ?_⟩
    have := List.head?_dropWhile_not k.isS (s :: r3)
    rwa [hx] at this

theorem matchEscPrefix_of {k : Classes} (hk : ClassesOk k) {c : Char} {subj det rest : Text}
    (hc : c = '2' ∨ c = '4' ∨ c = '5') (hs : Digits3 k subj) (hd : Digits3 k det)
    (hr : ∀ x, rest.head? = some x → k.isS x = false) :
    matchEscPrefix k (c :: '.' :: (subj ++ '.' :: (det ++ ' ' :: rest))) = some (c, subj, det, rest) := by
  have h1 := takeDigits3_of hs '.' (det ++ ' ' :: rest) hk.dotNotDigit
  have hsp : k.isD ' ' = false := Bool.eq_false_iff.mpr fun hh =>
    Bool.false_ne_true ((hk.digitNotSpace ' ' hh).symm.trans hk.spaceIsSpace)
  have h2 := takeDigits3_of hd ' ' rest hsp
  have hcc : (c == '2' || c == '4' || c == '5') = true := by
    rcases hc with rfl | rfl | rfl <;> decide
  simp only [matchEscPrefix, hcc, if_true, h1, h2, hk.spaceIsSpace]
  simp [hk.spaceIsSpace, dropWhile_of_head hr]

end Slimta.Reply
