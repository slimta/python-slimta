import Model.Bytes
import Proofs.Lemmas.List
/-! `splitLF` and `normGo` on a stretch of bytes without LF followed by anything: the form in which the line readers and the CRLF
    normalisation are used. `not_ws_of`, by which a class of bytes is shown to hold no white space. -/
namespace Slimta

theorem splitLF_noLF (a x : Bytes) (h : ∀ b ∈ a, b ≠ 10) :
    splitLF (a ++ 10 :: x) = some (a ++ [10], x) := by
  induction a with
  | nil => simp [splitLF]
  | cons b rest ih =>
    have hb : b ≠ 10 := h b (by simp)
    simp only [List.cons_append, splitLF]
    simp [hb, ih (fun c hc => h c (by simp [hc]))]

theorem splitLF_some {p l r : Bytes} (h : splitLF p = some (l, r)) :
    ∃ a, l = a ++ [10] ∧ (∀ b ∈ a, b ≠ 10) ∧ p = a ++ 10 :: r := by
  fun_induction splitLF p generalizing l with
  | case1 => cases h
  | case2 b rest hb =>
    cases h
    exact ⟨[], by simpa using hb, by simp, by simpa using hb⟩
  | case3 b rest hb hn ih => cases h
  | case4 b rest hb l' r' hs ih =>
    cases h
    obtain ⟨a, rfl, ha, rfl⟩ := ih hs
    exact ⟨b :: a, rfl, List.forall_mem_cons.mpr ⟨by simpa using hb, ha⟩, rfl⟩

theorem splitLF_none {p : Bytes} (h : splitLF p = none) : ∀ b ∈ p, b ≠ 10 := by
  fun_induction splitLF p with
  | case1 => simp
  | case2 b rest hb => cases h
  | case3 b rest hb hn ih => exact List.forall_mem_cons.mpr ⟨by simpa using hb, ih hn⟩
  | case4 b rest hb l' r' hs ih => cases h

theorem splitLF_append {a l r : Bytes} (x : Bytes) (h : splitLF a = some (l, r)) :
    splitLF (a ++ x) = some (l, r ++ x) := by
  obtain ⟨a', rfl, ha, rfl⟩ := splitLF_some h
  simpa using splitLF_noLF a' (r ++ x) ha

theorem normGo_noLF (a : Bytes) (ha : ∀ b ∈ a, b ≠ 10) (f : Bool) (x : Bytes) :
    normGo f (a ++ x) = a ++ normGo (if a = [] then f else a.getLast? == some 13) x := by
  induction a generalizing f with
  | nil => simp
  | cons b rest ih =>
    have hb : b ≠ 10 := ha b (by simp)
    rw [List.cons_append, normGo, if_neg (by simpa using hb), ih (fun c hc => ha c (by simp [hc])), lastIs_cons]
    rfl

theorem endsWith_crlf {m : Bytes} : endsWith m CRLF = true ↔ ∃ t, m = t ++ [13, 10] := by
  simp only [endsWith, List.isSuffixOf_iff_suffix, CRLF]
  exact ⟨fun ⟨t, h⟩ => ⟨t, h.symm⟩, fun ⟨t, h⟩ => ⟨t, h.symm⟩⟩

theorem not_ws_of {P : Byte → Bool} (hP : ∀ w ∈ ([32, 9, 10, 13, 12, 11] : Bytes), P w = false) {b : Byte}
    (h : P b = true) : isWs b = false := by
  cases hw : isWs b with
  | false => rfl
  | true =>
    have : b ∈ ([32, 9, 10, 13, 12, 11] : Bytes) := by simpa [isWs, or_assoc] using hw
    rw [hP b this] at h; cases h

end Slimta
