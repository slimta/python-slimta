import Model.Bounce
/-!
The default bounce templates of slimta/bounce, evaluated: what `parseTemplate` makes of the two literals of Model/Bounce.lean.
The bytes of a short literal are evaluated through `str_data`: `ByteArray.toList` is a `get!` loop by well-founded recursion, dear
for the kernel to evaluate (every `get!` walks the list again), while the `data` of a byte array is a list already. The bytes of the
553-character header template are not evaluated at all: building a `ByteArray` is quadratic for the kernel (`Array.push` is
`List.concat` there), but the kernel identifies a literal with `String.ofList` of its characters as it stands, and `str_ofList`
gives the bytes of that as a `flatMap` over the characters.
-/
namespace Slimta.Bounce

theorem toList_loop (bs : ByteArray) (i : Nat) (r : List UInt8) :
    ByteArray.toList.loop bs i r = r.reverse ++ bs.data.toList.drop i := by
  have hs : bs.data.toList.length = bs.size := by rw [Array.length_toList, ByteArray.size_data]
  induction h : bs.size - i generalizing i r with
  | zero =>
    unfold ByteArray.toList.loop
    rw [if_neg (by omega), List.drop_eq_nil_of_le (by omega), List.append_nil]
  | succ n ih =>
    unfold ByteArray.toList.loop
    have hi : i < bs.data.toList.length := by omega
    have hg : bs.get! i = bs.data.toList[i] := by
      cases bs; exact getElem!_pos _ i (by simpa using hi)
    rw [if_pos (by omega), ih (i + 1) _ (by omega), List.drop_eq_getElem_cons hi, hg, List.reverse_cons,
      List.append_assoc, List.singleton_append]

theorem str_data (s : String) : str s = s.toByteArray.data.toList := by
  simp [str, ByteArray.toList, toList_loop]

theorem str_ofList (l : List Char) : str (String.ofList l) = l.flatMap String.utf8EncodeChar := by
  rw [str_data, String.toByteArray_ofList, List.utf8Encode, List.data_toByteArray]

/-- Keys of the substitution table are compared as strings, not byte by byte. -/
theorem str_beq (a b : String) : (str a == str b) = decide (a = b) := by
  rw [Bool.beq_eq_decide_eq]
  exact decide_eq_decide.mpr (by rw [str_data, str_data, Array.toList_inj, ← ByteArray.ext_iff, String.toByteArray_inj])

/-- The parts of the default header template. The literals of the header block are written cut at the line ends, the form in which
    `C13.defaultLines` has them. -/
theorem defaultHdr_parts : defaultHdr =
    [.lit (str "From: MAILER-DAEMON" ++ (Slimta.CRLF ++ str "To: ")), .key (str "sender"),
     .lit (Slimta.CRLF ++ (str "Subject: Undelivered Mail Returned to Sender" ++ (Slimta.CRLF ++ (str "Auto-Submitted: auto-replied" ++ (Slimta.CRLF ++
       (str "MIME-Version: 1.0" ++ (Slimta.CRLF ++ (str "Content-Type: multipart/report; report-type=delivery-status;" ++ (Slimta.CRLF ++
       str "    boundary=\""))))))))),
     .key (str "boundary"),
     .lit (str "\"" ++ (Slimta.CRLF ++ (str "Content-Transfer-Encoding: 7bit" ++ (Slimta.CRLF ++ (Slimta.CRLF ++
       str "This is a multi-part message in MIME format.\r\n\r\n--"))))), .key (str "boundary"),
     .lit (str "\r\nContent-Type: text/plain\r\n\r\nDelivery failed for:\r\n- "), .key (str "recipients"),
     .lit (str "\r\n\r\nDestination host responded:\r\n"), .key (str "code"), .lit (str " "), .key (str "message"),
     .lit (str "\r\n\r\n--"), .key (str "boundary"), .lit (str "\r\nContent-Type: message/delivery-status\r\n\r\n"), .key (str "delivery_info"),
     .lit (str "\r\n\r\n--"), .key (str "boundary"), .lit (str "\r\nContent-Type: "), .key (str "content_type"), .lit (str "\r\n\r\n")] := by
  simp only [str_data]
  -- `with_reducible`: the elaborator too must take the literal for `String.ofList` of its characters, not unfold `String.ofList`
  have h : str defaultHeaderText = _ :=
    (congrArg str (show defaultHeaderText = String.ofList _ by unfold defaultHeaderText; with_reducible rfl)).trans (str_ofList _)
  rw [defaultHdr, h]
  decide +kernel

theorem defaultFtr_parts : defaultFtr = [.lit (str "\r\n--"), .key (str "boundary"), .lit (str "--\r\n")] := by
  simp only [defaultFtr, str_data]
  decide +kernel

end Slimta.Bounce
