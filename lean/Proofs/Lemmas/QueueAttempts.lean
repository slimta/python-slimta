import Proofs.Lemmas.QueueM
/-!
The attempt counter of the composed queue machine under every interleaving: the k-th hand-off of a message to the relay carries
`attempts = base + k`, `base` being the counter the storage held when the queue started (`A`); and in histories that obey a backoff
function every number handed over was allowed by it (`obeys`, `ReachB`, `B`), which bounds the hand-offs (`handoffs_bounded`).
-/
namespace Slimta.QM
open Slimta.Attempt Slimta.Sched

/-- The hand-offs of message `id`, newest first. -/
def hOf (q : State) (id : Nat) : List (Nat × List Rcpt × Nat) := q.handed.filter (·.1 == id)

/-- 1 while the message is between a hand-off and the `increment_attempts` that follows a deferred attempt, else 0. -/
def counting (s : Sched.State) (id : Nat) : Nat := if id ∈ s.inflight ∨ id ∈ s.retry then 1 else 0

/-- What `A` says of message `id`: its hand-offs carry consecutive attempt numbers from `base id` on (`shape`), and the stored counter
    lags by one while an attempt is in flight or its `increment_attempts` is still to come (`count`, `counting`). -/
structure A1 (base : Nat → Nat) (q : State) (id : Nat) : Prop where
  shape : (hOf q id).reverse.map (·.2.2) = (List.range (hOf q id).length).map (· + base id)
  count : ∀ m, q.msgs id = some m → id ∉ q.s.rem → m.attempts + counting q.s id = (hOf q id).length + base id

/-- The invariant behind C01's `attempt_numbers_count_up` and `attempt_numbers_continue`: `A1` of every message. `base id`: the attempt
    counter the storage held for the message when this queue started; only an id the storage held then has one (`baseZero`), so a
    freshly written id counts from 0. `knownH`: only known ids were ever handed over. -/
structure A (base : Nat → Nat) (q : State) : Prop where
  one : ∀ id, A1 base q id
  knownH : ∀ e ∈ q.handed, e.1 ∈ q.s.known
  baseZero : ∀ id, base id ≠ 0 → seen q.s id

theorem hOf_cons_same (q : State) (id : Nat) (r : List Rcpt) (a : Nat) (rest : List (Nat × List Rcpt × Nat))
    (h : q.handed = (id, r, a) :: rest) : hOf q id = (id, r, a) :: rest.filter (·.1 == id) := by
  simp [hOf, h]

theorem A_startAt (pre : List (Nat × Nat)) (rc : Nat → List Rcpt) (nn : Nat → Bool) (att : Nat → Nat) :
    A (fun id => if id ∈ pre.map (·.1) then att id else 0) (startAt pre rc nn att) := by
  refine ⟨fun id => ⟨rfl, fun m hm _ => ?_⟩, nofun, fun id hb => .inl ?_⟩
  · rw [startAt_msgs] at hm
    split at hm <;> cases hm
    rw [if_pos ‹_›]; exact (Nat.zero_add _).symm
  · exact Decidable.byContradiction fun h => hb (if_neg h)

theorem A1.of_same {base : Nat → Nat} {q q' : State} {j : Nat} (e : Same q q' j) (h : A1 base q j) : A1 base q' j := by
  have eh : hOf q' j = hOf q j := e.handed
  exact ⟨eh ▸ h.shape, fun m hm hr => by
    rw [eh]; simpa only [counting, e.inflight, e.retry] using h.count m (e.msgs ▸ hm) (mt e.rem.mpr hr)⟩

theorem A_step {fb : Bool} {base : Nat → Nat} {q q' : State} {l : Label} (hI : Inv fb q) (hA : A base q) (hc : calm q l)
    (hs : step fb q l = some q') : A base q' := by
  have hv := vok_of_inv hI.sched
  have hE := step_eff hs
  have hk := fun e he => sched_known_mono (step_sched hs) (hA.knownH e he)
  have one : ∀ j, A1 base q' j := by
    intro j
    have h1 := hA.one j
    -- a step that is no hand-off leaves the log alone: only the `count` clause has something to show
    have keep : q'.handed = q.handed →
        (∀ m, q'.msgs j = some m → j ∉ q'.s.rem → m.attempts + counting q'.s j = (hOf q j).length + base j) → A1 base q' j :=
      fun hh h => have e : hOf q' j = hOf q j := by rw [hOf, hh]; rfl
        ⟨e ▸ h1.shape, e ▸ h⟩
    have hof := hOf_cons_same q' j
    by_cases hj : l.tgt = some j
    · cases hE with
      | same _ _ hw hview => exact h1.of_same (same_of_view hw hview j)
      | write _ hnk hid _ hview =>
        cases hj
        obtain ⟨-, hret, -, hinf, -, -⟩ := View.mk.inj hview
        refine keep rfl fun m hm _ => ?_
        -- a fresh id: no hand-off of it yet, nothing the storage held at the start
        cases (upd_same q.msgs j _).symm.trans hm
        have hno : hOf q j = [] := List.filter_eq_nil_iff.mpr fun e he hej => hnk (beq_iff_eq.mp hej ▸ hA.knownH e he)
        have hb0 : base j = 0 := Decidable.byContradiction fun hb => (hA.baseZero j hb).elim hid hnk
        have n1 : j ∉ q.s.inflight := fun hx => hid (hv.stored j (Or.inl hx))
        have n2 : j ∉ q.s.retry := fun hx => hid (hv.stored j (Or.inr (Or.inl hx)))
        simp [counting, hinf, hret, n1, n2, hno, hb0]
      | @handoff _ _ m _ _ _ ht _ hna hm hview =>
        cases ht.symm.trans hj
        obtain ⟨-, -, -, hinf, -, -⟩ := View.mk.inj hview
        replace hm := handoff_msg hI hm
        obtain ⟨n1, n2, -, n4⟩ := idle_of_not_active hI.sched hna
        -- the number handed over is the number of hand-offs made so far (+ base)
        have hcnt : m.attempts = (hOf q j).length + base j := by simpa [counting, n1, n2] using h1.count m hm n4
        replace hof : hOf _ j = (j, m.rcpts, m.attempts) :: hOf q j := hof _ _ _ rfl
        refine ⟨?_, fun mj hmj _ => ?_⟩ <;> rw [hof]
        · simp [List.range_succ, h1.shape, hcnt]
        · cases hm.symm.trans hmj
          simp [counting, hinf, hcnt]; omega
      | done _ hin hview =>
        cases hj
        refine keep rfl fun m hm hr => ?_
        -- the attempt is over: the message leaves the queue, or waits for `increment_attempts` and still counts
        split at hview <;> obtain ⟨hrem, hret, -, -, -, -⟩ := View.mk.inj hview
        · exact absurd (by simp [hrem]) hr
        · simpa [counting, hret, hin] using h1.count m hm (hrem ▸ hr)
      | retryNone _ _ _ hview =>
        cases hj
        exact keep rfl fun m _ hr => absurd (by simp [(View.mk.inj hview).1]) hr
      | @retrySome _ _ _ m _ _ hm hin hview =>
        cases hj
        obtain ⟨hrem, hret, -, hinf, -, -⟩ := View.mk.inj hview
        refine keep rfl fun mj hmj hr => ?_
        -- `increment_attempts`: the counter goes up, the message stops counting as in progress
        cases (upd_same q.msgs j _).symm.trans hmj
        have hni : j ∉ q.s.inflight := fun hx => ((hv.excl j).1 hx).1 hin
        have := h1.count m hm (hrem ▸ hr)
        simp only [counting, hin, or_true, if_true] at this
        simp [counting, hinf, hret, mem_without, hni]; omega
      | @requeue _ _ m _ _ hm _ hview =>
        cases hj
        obtain ⟨hrem, hret, -, hinf, -, -⟩ := View.mk.inj hview
        refine keep rfl fun mj hmj hr => ?_
        cases (upd_same q.msgs j _).symm.trans hmj
        simpa [counting, hinf, hret] using h1.count m hm (hrem ▸ hr)
      | remove =>
        cases hj
        exact keep rfl fun m hm _ => by simp at hm
    · exact h1.of_same (same_of_ne hE hj)
  refine ⟨one, ?_, fun id hb => seen_step hI.sched (step_sched hs) (hA.baseZero id hb)⟩
  cases hE with
  | @handoff _ id _ s' _ _ _ _ _ _ hview =>
    intro e he
    rcases List.mem_cons.mp he with rfl | he
    · have hin : id ∈ s'.inflight := (View.mk.inj hview).2.2.2.1 ▸ List.mem_cons_self ..
      have hI' := (inv_step hI hc hs).sched
      exact hI'.known id (Or.inr (Or.inr (Or.inl ((hI'.act id).mpr (Or.inl hin)))))
    · exact hk e he
  | _ => exact hk

theorem reach_A {fb : Bool} {pre : List (Nat × Nat)} {rc : Nat → List Rcpt} {nn : Nat → Bool} {att : Nat → Nat}
    (hpre : (pre.map (·.1)).Nodup) (hrc : ∀ id ∈ pre.map (·.1), (rc id).Nodup) {q : State}
    (hr : Reach fb (startAt pre rc nn att) q) : A (fun id => if id ∈ pre.map (·.1) then att id else 0) q :=
  reach_induct_inv (inv_startAt fb pre rc nn att hpre hrc) (A_startAt pre rc nn att)
    (fun _ hI hA hc hs => A_step hI hA hc hs) hr

/-- `_retry_later` asks `backoff(envelope, attempts)` with the incremented counter: histories in which the number on every `retry`
    label IS that answer. `Sched.step` takes that number for the due time, which in the code is the time of the call + the answer:
    `ReachB` has only the histories whose due times are the raw answers (`B_step` uses no more than whether there is an answer). -/
def obeys (bo : Nat → Option Nat) (q : State) : Label → Prop
  | .retry id w => ∀ m, q.msgs id = some m → w = bo (m.attempts + 1)
  | _ => True

inductive ReachB (fb : Bool) (bo : Nat → Option Nat) (q0 : State) : State → Prop
  | init : ReachB fb bo q0 q0
  | step {q q' : State} {l : Label} : ReachB fb bo q0 q → calm q l → obeys bo q l → step fb q l = some q' → ReachB fb bo q0 q'

theorem ReachB.reach {fb : Bool} {bo : Nat → Option Nat} {q0 q : State} (h : ReachB fb bo q0 q) : Reach fb q0 q := by
  induction h with
  | init => exact Reach.init
  | step _ hc _ hs ih => exact Reach.step ih hc hs

/-- In histories that obey the backoff function `bo` (`ReachB`), an attempt counter beyond the one the message started with is one
    `bo` allowed: the stored one, and the one of every hand-off made (C01's `attempts_need_backoff`). -/
structure B (bo : Nat → Option Nat) (base : Nat → Nat) (q : State) : Prop where
  stored : ∀ id m, q.msgs id = some m → id ∉ q.s.rem → m.attempts = base id ∨ (bo m.attempts).isSome
  handed : ∀ e ∈ q.handed, e.2.2 = base e.1 ∨ (bo e.2.2).isSome

theorem B_step {fb : Bool} {bo : Nat → Option Nat} {base : Nat → Nat} {q q' : State} {l : Label} (hI : Inv fb q) (hA : A base q)
    (hB : B bo base q) (ho : obeys bo q l) (hs : step fb q l = some q') : B bo base q' := by
  have hE := step_eff hs
  refine ⟨fun j mj hmj hrj => ?_, ?_⟩
  · by_cases hj : l.tgt = some j
    · -- the message the step is about: its counter changes when it is written and at `increment_attempts`
      cases hE with
      | same _ _ _ hview => exact hB.stored j mj hmj ((View.mk.inj hview).1 ▸ hrj)
      | write _ hnk hid =>
        cases hj
        cases (upd_same q.msgs j _).symm.trans hmj
        exact .inl (Decidable.byContradiction fun hb => (hA.baseZero j (Ne.symm hb)).elim hid hnk)
      | handoff _ _ _ _ _ _ hview => exact hB.stored j mj hmj ((View.mk.inj hview).1 ▸ hrj)
      | done _ _ hview =>
        refine hB.stored j mj hmj fun h => hrj ?_
        split at hview <;> simp [(View.mk.inj hview).1, h]
      | retryNone _ _ _ hview =>
        cases hj
        exact absurd (by simp [(View.mk.inj hview).1]) hrj
      | @retrySome _ _ _ m _ _ hm =>
        cases hj
        cases (upd_same q.msgs j _).symm.trans hmj
        -- the new counter is the one the backoff function was asked about, and it answered
        exact .inr (by show (bo (m.attempts + 1)).isSome; rw [← ho m hm]; rfl)
      | @requeue _ _ m _ _ hm _ hview =>
        cases hj
        cases (upd_same q.msgs j _).symm.trans hmj
        exact hB.stored j m hm ((View.mk.inj hview).1 ▸ hrj)
      | remove =>
        cases hj
        simp at hmj
    · have e := same_of_ne hE hj
      exact hB.stored j mj (e.msgs ▸ hmj) (mt e.rem.mpr hrj)
  · cases hE with
    | handoff _ _ _ _ hna hm =>
      intro e he
      rcases List.mem_cons.mp he with rfl | he
      · exact hB.stored _ _ (handoff_msg hI hm) (idle_of_not_active hI.sched hna).2.2.2
      · exact hB.handed e he
    | _ => exact hB.handed

theorem B_startAt (bo : Nat → Option Nat) (pre : List (Nat × Nat)) (rc : Nat → List Rcpt) (nn : Nat → Bool) (att : Nat → Nat) :
    B bo (fun id => if id ∈ pre.map (·.1) then att id else 0) (startAt pre rc nn att) := by
  refine ⟨fun id m hm _ => ?_, nofun⟩
  rw [startAt_msgs] at hm
  split at hm <;> cases hm
  exact .inl (if_pos ‹_›).symm

theorem reach_B {fb : Bool} {bo : Nat → Option Nat} {pre : List (Nat × Nat)} {rc : Nat → List Rcpt} {nn : Nat → Bool}
    {att : Nat → Nat} (hpre : (pre.map (·.1)).Nodup) (hrc : ∀ id ∈ pre.map (·.1), (rc id).Nodup) {q : State}
    (hr : ReachB fb bo (startAt pre rc nn att) q) : B bo (fun id => if id ∈ pre.map (·.1) then att id else 0) q := by
  induction hr with
  | init => exact B_startAt bo pre rc nn att
  | step hprev _ ho hs ih => exact B_step (reach_inv hpre hrc hprev.reach) (reach_A hpre hrc hprev.reach) ih ho hs

/-- A message is handed to the relay at most `N + 1 - base` times (once, if its counter is already beyond the cut-off `N` of the
    backoff function): the newest hand-off carries the largest number, `base + length - 1`, and it is `base` or allowed. -/
theorem handoffs_bounded {bo : Nat → Option Nat} {base : Nat → Nat} {q : State} (hA : A base q) (hB : B bo base q) {N : Nat}
    (hN : ∀ a, N < a → bo a = none) (id : Nat) : (hOf q id).length ≤ max (N + 1 - base id) 1 := by
  have hshape := (hA.one id).shape
  cases hl : hOf q id with
  | nil => simp
  | cons e rest =>
    have hmem : e ∈ hOf q id := by rw [hl]; simp
    have he1 : e.1 = id := by simpa using (List.mem_filter.mp hmem).2
    have := hB.handed e (List.mem_filter.mp hmem).1
    rw [hl] at hshape
    simp only [List.reverse_cons, List.map_append, List.length_cons, List.range_succ, List.map_cons, List.map_nil] at hshape
    have hlast := List.append_inj_right' hshape (by simp)
    simp only [List.cons.injEq, and_true] at hlast
    rw [he1] at this
    simp only [List.length_cons]
    rcases this with h0 | hsome
    · omega
    · have : ¬ N < e.2.2 := fun hlt => by simp [hN _ hlt] at hsome
      omega

end Slimta.QM
