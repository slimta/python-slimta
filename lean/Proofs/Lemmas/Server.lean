import Model.Server
import Proofs.Lemmas.Reply
import Proofs.Lemmas.Data
/-! Segmentation: each reader of a connection (`recvLine`, `Data.runLimited`, the AUTH exchange) is a function of the
    bytes the connection will deliver (`Same`), hence so is the command loop (`loop_same`). One command: `step` and the AUTH
    handlers read by cases (`step_cases`, `stepAuth_cases`, `authExchange_cases`). A session: what every state-changing part
    keeps (`Preserved`) holds at the end of `loop` and of `serve`. -/
namespace Slimta.Server

/-- A socket script without empty reads (an empty read is end-of-file, not data). -/
def NoEmpty (segs : List Bytes) : Prop := ∀ x ∈ segs, x ≠ []

/-- Two connections that will deliver the same bytes. -/
def Same (a b : Stream) : Prop := a.flat = b.flat ∧ NoEmpty a.segs ∧ NoEmpty b.segs

theorem same_refl_of (a : Stream) (h : NoEmpty a.segs) : Same a a := ⟨rfl, h, h⟩

theorem recvLine_flat (segs : List Bytes) (buf : Bytes) (hne : NoEmpty segs) :
    match Reply.matchLine (buf ++ segs.flatten) with
    | some (l, r) => ∃ st', recvLine buf segs = .ok (l, st') ∧ st'.flat = r ∧ NoEmpty st'.segs
    | none => recvLine buf segs = .error .wouldBlock := by
  induction segs generalizing buf with
  | nil =>
    simp only [List.flatten_nil, List.append_nil, recvLine]
    cases h : Reply.matchLine buf with
    | none => rfl
    | some p => obtain ⟨l, r⟩ := p; exact ⟨⟨r, []⟩, rfl, by simp [Stream.flat], by intro x hx; simp at hx⟩
  | cons seg rest ih =>
    have hseg : seg ≠ [] := hne seg (by simp)
    have hrest : NoEmpty rest := fun x hx => hne x (by simp [hx])
    simp only [recvLine]
    cases h : Reply.matchLine buf with
    | some p =>
      obtain ⟨l, r⟩ := p
      have := Reply.matchLine_append (seg :: rest).flatten h
      rw [this]
      exact ⟨⟨r, seg :: rest⟩, rfl, by simp [Stream.flat], hne⟩
    | none =>
      have hs : seg.isEmpty = false := by cases seg <;> simp_all
      simp only [hs, Bool.false_eq_true, if_false]
      have := ih (buf ++ seg) hrest
      simpa [List.flatten_cons, List.append_assoc] using this

theorem recvLine_same (a b : Stream) (h : Same a b) :
    (∃ l sa sb, recvLine a.buf a.segs = .ok (l, sa) ∧ recvLine b.buf b.segs = .ok (l, sb) ∧ Same sa sb) ∨
    (recvLine a.buf a.segs = .error .wouldBlock ∧ recvLine b.buf b.segs = .error .wouldBlock) := by
  obtain ⟨hf, ha, hb⟩ := h
  have h1 := recvLine_flat a.segs a.buf ha
  have h2 := recvLine_flat b.segs b.buf hb
  simp only [Stream.flat] at hf
  rw [← hf] at h2
  cases hm : Reply.matchLine (a.buf ++ a.segs.flatten) with
  | none => rw [hm] at h1 h2; exact Or.inr ⟨h1, h2⟩
  | some p =>
    obtain ⟨l, r⟩ := p
    rw [hm] at h1 h2
    obtain ⟨sa, e1, f1, n1⟩ := h1
    obtain ⟨sb, e2, f2, n2⟩ := h2
    exact Or.inl ⟨l, sa, sb, e1, e2, by rw [Same, f1, f2]; exact ⟨rfl, n1, n2⟩⟩

theorem recvLoop_unread_suffix (segs : List Bytes) (s : Data.RS) (r : Data.Result)
    (h : Data.recvLoop s segs = .ok r) : ∃ pre, segs = pre ++ r.unread := by
  induction segs generalizing s with
  | nil =>
    simp only [Data.recvLoop] at h
    split at h <;> simp at h
    subst h; exact ⟨[], rfl⟩
  | cons piece rest ih =>
    simp only [Data.recvLoop] at h
    split at h
    · simp at h; subst h; exact ⟨[], rfl⟩
    · split at h
      · simp at h
      · obtain ⟨pre, hp⟩ := ih _ h
        exact ⟨piece :: pre, by simp [hp]⟩

theorem runLimited_same (maxSize : Option Nat) (a b : Stream) (h : Same a b) :
    (∃ d ra rb, Data.runLimited maxSize a.buf a.segs = .ok ⟨d, ra.buf, ra.segs⟩ ∧
        Data.runLimited maxSize b.buf b.segs = .ok ⟨d, rb.buf, rb.segs⟩ ∧ Same ra rb) ∨
    (Data.runLimited maxSize a.buf a.segs = .error .wouldBlock ∧ Data.runLimited maxSize b.buf b.segs = .error .wouldBlock) := by
  obtain ⟨hf, ha, hb⟩ := h
  simp only [Stream.flat] at hf
  simp only [Data.runLimited]
  rcases Data.agrees_same (Data.run_agrees a.buf a.segs ha) (hf ▸ Data.run_agrees b.buf b.segs hb) with ⟨r1, r2, e1, e2, hd, hr⟩ | ⟨e1, e2⟩
  · obtain ⟨p1, hp1⟩ := recvLoop_unread_suffix a.segs _ r1 e1
    obtain ⟨p2, hp2⟩ := recvLoop_unread_suffix b.segs _ r2 e2
    have n1 : NoEmpty r1.unread := fun x hx => ha x (by rw [hp1]; simp [hx])
    have n2 : NoEmpty r2.unread := fun x hx => hb x (by rw [hp2]; simp [hx])
    have hlen := congrArg List.length hf
    have hlen2 := congrArg List.length hr
    simp only [List.length_append] at hlen hlen2
    rw [e1, e2]
    left
    simp only [hlen, hlen2, hd]
    have hs : Same ⟨r1.recvBuffer, r1.unread⟩ ⟨r2.recvBuffer, r2.unread⟩ := ⟨hr, n1, n2⟩
    split
    · exact ⟨none, _, _, rfl, rfl, hs⟩
    · exact ⟨some _, _, _, rfl, rfl, hs⟩
  · rw [e1, e2]
    exact .inr ⟨rfl, rfl⟩

theorem challenge_same (ao : AuthOracle) (initial : Option Bytes) (a b : Stream) (h : Same a b) :
    (∃ res evs sa sb, challenge ao initial a = .ok (res, evs, sa) ∧ challenge ao initial b = .ok (res, evs, sb) ∧ Same sa sb) ∨
    (challenge ao initial a = .error .wouldBlock ∧ challenge ao initial b = .error .wouldBlock) := by
  cases initial with
  | some r =>
    left
    simp only [challenge]
    split
    · exact ⟨_, _, a, b, rfl, rfl, h⟩
    · split
      · exact ⟨_, _, a, b, rfl, rfl, h⟩
      · exact ⟨_, _, a, b, rfl, rfl, h⟩
  | none =>
    simp only [challenge]
    rcases recvLine_same a b h with ⟨l, sa, sb, e1, e2, hs⟩ | ⟨e1, e2⟩
    · left
      rw [e1, e2]
      simp only
      split
      · exact ⟨_, _, sa, sb, rfl, rfl, hs⟩
      · split
        · exact ⟨_, _, sa, sb, rfl, rfl, hs⟩
        · exact ⟨_, _, sa, sb, rfl, rfl, hs⟩
    · right
      rw [e1, e2]; exact ⟨rfl, rfl⟩

theorem authExchange_same (v : Verdicts) (ao : AuthOracle) (s : St) (mech : Bytes) (initial : Option Bytes)
    (a b : Stream) (h : Same a b) :
    (∃ s' evs nx sa sb, authExchange v ao s mech initial a = .ok (s', evs, nx, sa) ∧
        authExchange v ao s mech initial b = .ok (s', evs, nx, sb) ∧ Same sa sb) ∨
    (authExchange v ao s mech initial a = .error .wouldBlock ∧ authExchange v ao s mech initial b = .error .wouldBlock) := by
  unfold authExchange
  dsimp only
  by_cases hm : (mech != mPLAIN && mech != mLOGIN) = true
  · rw [if_pos hm, if_pos hm]; exact .inl ⟨_, _, _, a, b, rfl, rfl, h⟩
  rw [if_neg hm, if_neg hm]
  by_cases he : (!s.encrypted) = true
  · rw [if_pos he, if_pos he]; exact .inl ⟨_, _, _, a, b, rfl, rfl, h⟩
  rw [if_neg he, if_neg he]
  rcases challenge_same ao initial a b h with ⟨res, evs, sa, sb, e1, e2, hs⟩ | ⟨e1, e2⟩
  · rw [e1, e2]
    by_cases hp : (mech == mPLAIN) = true
    · rw [if_pos hp, if_pos hp]
      cases res with
      | error code => exact .inl ⟨_, _, _, sa, sb, rfl, rfl, hs⟩
      | ok blob =>
        dsimp only
        cases ao.plain blob <;> exact .inl ⟨_, _, _, sa, sb, rfl, rfl, hs⟩
    · rw [if_neg hp, if_neg hp]
      cases res with
      | error code => exact .inl ⟨_, _, _, sa, sb, rfl, rfl, hs⟩
      | ok user =>
        dsimp only
        rcases challenge_same ao none sa sb hs with ⟨res2, evs2, ta, tb, f1, f2, ht⟩ | ⟨f1, f2⟩
        · rw [f1, f2]
          cases res2 with
          | error code => exact .inl ⟨_, _, _, ta, tb, rfl, rfl, ht⟩
          | ok pass =>
            dsimp only
            split <;> exact .inl ⟨_, _, _, ta, tb, rfl, rfl, ht⟩
        · rw [f1, f2]; exact .inr ⟨rfl, rfl⟩
  · rw [e1, e2]; exact .inr (by by_cases hp : (mech == mPLAIN) = true <;> simp [hp])

/-- Two runs that cannot be told apart from outside. -/
def RunEq (r r' : Run) : Prop :=
  r.events = r'.events ∧ r.ending = r'.ending ∧ r.state = r'.state ∧ r.rest.flat = r'.rest.flat

theorem loop_same (v : Verdicts) (ao : AuthOracle) (fuel : Nat) (s : St) (acc : List Event) (a b : Stream)
    (h : Same a b) : RunEq (loop v ao fuel s a acc) (loop v ao fuel s b acc) := by
  induction fuel generalizing s acc a b with
  | zero => exact ⟨rfl, rfl, rfl, h.1⟩
  | succ fuel ih =>
    simp only [loop]
    rcases recvLine_same a b h with ⟨l, sa, sb, e1, e2, hs⟩ | ⟨e1, e2⟩
    · rw [e1, e2]
      simp only
      rcases hstep : step v s (parseCommand l) with ⟨s1, evs, nx⟩
      cases nx with
      | continue_ => exact ih s1 _ sa sb hs
      | closed => exact ⟨rfl, rfl, rfl, hs.1⟩
      | aborted => exact ⟨rfl, rfl, rfl, hs.1⟩
      | tls => exact ⟨rfl, rfl, rfl, hs.1⟩
      | data =>
        simp only
        rcases runLimited_same s1.extSize sa sb hs with ⟨d, ra, rb, f1, f2, hr⟩ | ⟨f1, f2⟩
        · rw [f1, f2]
          simp only
          rcases hafter : afterData v s1 d with ⟨s2, evs2, nx2⟩
          cases nx2 with
          | closed => exact ⟨rfl, rfl, rfl, hr.1⟩
          | _ => exact ih s2 _ ra rb hr
        · rw [f1, f2]; exact ⟨rfl, rfl, rfl, hs.1⟩
      | auth mech initial =>
        simp only
        rcases authExchange_same v ao s1 mech initial sa sb hs with ⟨s2, evs2, nx2, ta, tb, f1, f2, ht⟩ | ⟨f1, f2⟩
        · rw [f1, f2]
          simp only
          cases nx2 with
          | closed => exact ⟨rfl, rfl, rfl, ht.1⟩
          | _ => exact ih s2 _ ta tb ht
        · rw [f1, f2]; exact ⟨rfl, rfl, rfl, hs.1⟩
    · rw [e1, e2]; exact ⟨rfl, rfl, rfl, h.1⟩

/-- `step` runs the handler that the command name selects: what holds of every handler's result holds of `step`'s (for a motive
    `P` given at the call; the keyword is handed on where a user needs it: MAIL, RCPT, and membership for a custom command). Here and in the walks over the handlers' definitions `if` is passed by core's `iteInduction`: it
    applies first-order to a goal `P (if …)` and costs next to nothing, where `split` on a handler's body or on `step`'s chain
    of keyword tests is very slow to check, the more so with every hypothesis it adds. -/
theorem step_cases {P : St × List Event × Next → Prop} (v : Verdicts) (s : St) (name : Bytes) (arg : Option Bytes)
    (hello : ∀ isE, P (stepHello v s isE arg)) (starttls : P (stepStartTls v s arg)) (auth : P (stepAuth s arg))
    (mail : cmdIs name "MAIL" = true → P (stepMail v s arg)) (rcpt : cmdIs name "RCPT" = true → P (stepRcpt v s arg))
    (data : P (stepData v s arg)) (rset : P (stepRset v s arg)) (noop : P (stepNoop v s)) (quit : P (stepQuit v s arg))
    (custom : name ∈ s.custom → P (stepCustom v s name arg)) (unknown : P (s, [.reply 500], .continue_)) :
    P (step v s (some (name, arg))) :=
  iteInduction (fun _ => hello true) fun _ => iteInduction (fun _ => hello false) fun _ => iteInduction (fun _ => starttls) fun _ =>
  iteInduction (fun _ => auth) fun _ => iteInduction mail fun _ => iteInduction rcpt fun _ => iteInduction (fun _ => data) fun _ =>
  iteInduction (fun _ => rset) fun _ => iteInduction (fun _ => noop) fun _ => iteInduction (fun _ => quit) fun _ =>
  iteInduction (fun h => custom (List.contains_iff_mem.mp h)) fun _ => unknown

theorem finish_state (s : St) (evs : List Event) (code : Nat) : (finish s evs code).1 = s := by
  simp only [finish]; split <;> rfl

theorem finish_next (s : St) (evs : List Event) (code : Nat) :
    (finish s evs code).2.2 = .continue_ ∨ (finish s evs code).2.2 = .closed := by
  simp only [finish]; split <;> simp

/-- Nothing has changed but, perhaps, the number of callbacks made. -/
def Bumped (s s' : St) : Prop := s' = s ∨ s' = { s with ncb := s.ncb + 1 }

/-- RSET, NOOP and QUIT with `SmtpSession` as handler answer without asking a validator; else they make an ordinary callback. -/
theorem optCallback (v : Verdicts) (s : St) (c : Cb) (d : Nat) :
    ∃ s1 code, (if s.session = true then (s, [Event.cb c], d) else callback v s c d) = (s1, [.cb c], code) ∧
      Bumped s s1 ∧ (s.session = true → code = d) := by
  split
  · exact ⟨s, d, rfl, .inl rfl, fun _ => rfl⟩
  · exact ⟨_, _, rfl, .inr rfl, fun h => absurd h ‹_›⟩

theorem truthy_iff (t : Tri) : t.truthy = true ↔ t = .yes := by cases t <;> simp [Tri.truthy]

/-- What `_command_AUTH` comes to: AUTH is refused, or it is permitted and the SASL exchange is due. -/
def AuthStep (s : St) (r : St × List Event × Next) : Prop :=
  (∃ code, code ∈ [500, 501, 503, 504] ∧ r = (s, [.reply code], .continue_)) ∨
  ((s.extAuth = true ∧ s.ehloAs.isSome = true ∧ s.authed = false ∧ s.haveMail.truthy = false) ∧ ∃ m i, r = (s, [], .auth m i))

theorem stepAuth_cases (s : St) (arg : Option Bytes) : AuthStep s (stepAuth s arg) := by
  have no : ∀ code, code ∈ [500, 501, 503, 504] → AuthStep s (s, [.reply code], .continue_) := fun code h => .inl ⟨code, h, rfl⟩
  unfold stepAuth
  refine iteInduction (fun _ => no 500 (by decide)) fun h1 => iteInduction (fun _ => no 503 (by decide)) fun h2 => ?_
  have yes : ∀ m i, AuthStep s (s, [], .auth m i) := fun m i =>
    .inr ⟨by simpa [Option.isSome_iff_ne_none, and_assoc] using And.intro h1 h2, m, i, rfl⟩
  rcases arg with _ | a
  · exact no 501 (by decide)
  dsimp only
  refine iteInduction (fun _ => no 504 (by decide)) fun _ => iteInduction (fun _ => yes _ _) fun _ => ?_
  rcases a.dropWhile _ with _ | ⟨b, _⟩
  · exact no 504 (by decide)
  · exact iteInduction (fun _ => yes _ _) fun _ => no 504 (by decide)

theorem challenge_events {ao : AuthOracle} {i : Option Bytes} {st st' : Stream} {r : Except Nat Bytes} {e : List Event}
    (h : challenge ao i st = .ok (r, e, st')) : ∀ c, Event.cb c ∉ e := by
  unfold challenge at h
  repeat' split at h
  -- every leaf is `.error _ = .ok _` or gives `e` as `[]` or `[.reply 334]`
  all_goals cases h <;> simp

/-- An AUTH exchange that comes to an end either fails by itself (no callback, state untouched, the session goes on) or — on an
    encrypted session, for PLAIN or LOGIN — makes the AUTH callback and answers with the application's verdict. -/
def AuthEnds (v : Verdicts) (s : St) (mech : Bytes) (x : Except Stop (St × List Event × Next × Stream)) : Prop :=
  ∀ ⦃s' evs nx st'⦄, x = .ok (s', evs, nx, st') →
    (s' = s ∧ nx = .continue_ ∧ ∀ c, Event.cb c ∉ evs) ∨
    (s.encrypted = true ∧ (mech = mPLAIN ∨ mech = mLOGIN) ∧ ∃ pre a b c,
      (s', evs, nx) = finish { s with ncb := s.ncb + 1, authed := (v s.ncb).getD 235 == 235 } (pre ++ [.cb (.auth a b c)])
        ((v s.ncb).getD 235))

theorem authExchange_cases {v : Verdicts} {ao : AuthOracle} {s : St} {mech : Bytes} {initial : Option Bytes} {st : Stream} :
    AuthEnds v s mech (authExchange v ao s mech initial st) := by
  have fail : ∀ evs code st', (∀ c, Event.cb c ∉ evs) → AuthEnds v s mech (.ok (s, evs ++ [.reply code], .continue_, st')) :=
    fun evs code st' hn _ _ _ _ h => by cases h; exact .inl ⟨rfl, rfl, by simpa using hn⟩
  unfold authExchange callback
  refine iteInduction (fun _ => fail [] 504 st (by simp)) fun hm => iteInduction (fun _ => fail [] 504 st (by simp)) fun he => ?_
  have hmech : mech = mPLAIN ∨ mech = mLOGIN := by simpa [Decidable.or_iff_not_imp_left] using hm
  have henc : s.encrypted = true := by simpa using he
  dsimp only
  refine iteInduction (fun _ => ?_) fun _ => ?_
  · rcases hc : challenge ao initial st with e | ⟨code | blob, evs1, st1⟩
    · exact fun _ _ _ _ h => nomatch h
    · exact fail _ _ _ (challenge_events hc)
    · dsimp only
      rcases ao.plain blob with _ | creds
      · exact fail _ _ _ (challenge_events hc)
      · exact fun _ _ _ _ h => by cases h; exact .inr ⟨henc, hmech, _, _, _, _, rfl⟩
  · rcases hc : challenge ao initial st with e | ⟨code | user, evs1, st1⟩
    · exact fun _ _ _ _ h => nomatch h
    · exact fail _ _ _ (challenge_events hc)
    · dsimp only
      rcases hc2 : challenge ao none st1 with e | ⟨code | pass, evs2, st2⟩
      · exact fun _ _ _ _ h => nomatch h
      · exact fail _ _ _ (by simpa using fun c => ⟨challenge_events hc c, challenge_events hc2 c⟩)
      · exact iteInduction (fun _ => fail _ _ _ (by simpa using fun c => ⟨challenge_events hc c, challenge_events hc2 c⟩))
          fun _ _ _ _ _ h => by cases h; exact .inr ⟨henc, hmech, _, _, _, _, rfl⟩

/-- `I` is kept by everything that changes the state in a session: a command, the end of a message, an AUTH exchange, a TLS
    handshake. -/
structure Preserved (v : Verdicts) (ao : AuthOracle) (I : St → Prop) : Prop where
  step : ∀ s cmd, I s → I (step v s cmd).1
  data : ∀ s c, I s → I (afterData v s c).1
  auth : ∀ {s mech i st s' evs nx st'}, I s → authExchange v ao s mech i st = .ok (s', evs, nx, st') → I s'
  tls : ∀ s, I s → I (afterTls s).1

theorem Preserved.of_loop {v ao I} (hI : Preserved v ao I) (fuel : Nat) (s : St) (st : Stream) (acc : List Event) (h : I s) :
    I (loop v ao fuel s st acc).state := by
  induction fuel generalizing s st acc with
  | zero => exact h
  | succ fuel ih =>
    unfold loop
    split
    · exact h
    · exact h
    · rename_i line st1 _
      have h1 := hI.step s (parseCommand line) h
      rcases hs : Server.step v s (parseCommand line) with ⟨s1, evs, nx⟩
      rw [hs] at h1
      cases nx with
      | continue_ => exact ih _ _ _ h1
      | closed | aborted | tls => exact h1
      | data =>
        dsimp only
        split
        · exact h1
        · exact h1
        · rename_i r _
          have h2 := hI.data s1 r.data h1
          rcases hd : afterData v s1 r.data with ⟨s2, evs2, nx2⟩
          rw [hd] at h2
          cases nx2 with
          | closed => exact h2
          | _ => exact ih _ _ _ h2
      | auth mech i =>
        dsimp only
        split
        · exact h1
        · exact h1
        · rename_i s2 evs2 nx2 st2 heq
          have h2 := hI.auth h1 heq
          cases nx2 with
          | closed => exact h2
          | _ => exact ih _ _ _ h2

theorem Preserved.of_serve {v ao I} (hI : Preserved v ao I) (cfg : Cfg) (h0 : I (banner v (initSt cfg)).1) (st : Stream)
    (tls : List (List Bytes)) : I (serve cfg v ao st tls).state := by
  have go : ∀ fuel k s st tls acc, I s → I (serve.go v ao fuel k s st tls acc).state := by
    intro fuel k
    induction k with
    | zero => exact fun _ _ _ _ h => h
    | succ k ih =>
      intro s st tls acc h
      have hl := hI.of_loop fuel s st acc h
      unfold serve.go
      dsimp only
      split
      · split
        · exact hl
        · exact ih _ _ _ _ (hI.tls _ hl)
      · exact hl
  unfold serve
  dsimp only
  split
  · exact h0
  · exact go _ _ _ _ _ _ h0

end Slimta.Server
