import Model.Policy
/-! `Queue._run_policies` (`Model/Policy.lean`), read on multisets: the result list is only looked at up to order. `apply_spec`
    says what one policy may hand on for an envelope (`Handed`: the same recipient slots, sender and body; identities distinct
    and fresh); `recurse_spec` carries it through the recursion as "the envelope gives way to its outputs, the others stay"
    (`Spec`), with identities distinct and below the allocator (`Good`) as the invariant that makes `replaceObj` / `removeObj` act
    on the one object meant. -/
namespace Slimta.Policy

def slots (e : Env) : List Nat := e.rcpts.map Prod.fst
def slotsOf (l : List Env) : List Nat := l.flatMap slots
def eids (l : List Env) : List Nat := l.map (·.eid)

@[simp] theorem slotsOf_nil : slotsOf [] = [] := rfl
@[simp] theorem slotsOf_cons (e : Env) (l : List Env) : slotsOf (e :: l) = slots e ++ slotsOf l := by
  simp [slotsOf]
@[simp] theorem slotsOf_append (a b : List Env) : slotsOf (a ++ b) = slotsOf a ++ slotsOf b := by
  simp [slotsOf]
@[simp] theorem eids_cons (e : Env) (l : List Env) : eids (e :: l) = e.eid :: eids l := rfl
@[simp] theorem eids_nil : eids [] = [] := rfl
@[simp] theorem eids_append (a b : List Env) : eids (a ++ b) = eids a ++ eids b := by simp [eids]

theorem mem_eids {l : List Env} {x : Env} (h : x ∈ l) : x.eid ∈ eids l := List.mem_map.mpr ⟨x, h, rfl⟩

/-! `_run_policies` removes an envelope and appends what replaced it, so `replaceObj_perm` / `removeObj_perm` are stated for a list
that is a permutation of `cur :: rest`. -/

theorem replaceObj_split {a b : List Env} {cur cur' : Env} (hn : cur.eid ∉ eids a) (he : cur'.eid = cur.eid) :
    replaceObj cur' (a ++ cur :: b) = a ++ cur' :: b := by
  induction a with
  | nil => simp [replaceObj, he]
  | cons x xs ih =>
    simp only [eids_cons, List.mem_cons, not_or] at hn
    simp [replaceObj, he, Ne.symm hn.1, ih hn.2]

theorem removeObj_split {a b : List Env} {x : Env} (hn : x.eid ∉ eids a) : removeObj x.eid (a ++ x :: b) = a ++ b := by
  induction a with
  | nil => simp [removeObj]
  | cons y ys ih =>
    simp only [eids_cons, List.mem_cons, not_or] at hn
    simp [removeObj, Ne.symm hn.1, ih hn.2]

theorem eids_replaceObj (e : Env) (l : List Env) : eids (replaceObj e l) = eids l := by
  induction l with
  | nil => rfl
  | cons x xs ih => simp only [replaceObj]; split <;> simp_all

theorem split_of_perm {l rest : List Env} {cur : Env} (hn : (eids l).Nodup) (h : l.Perm (cur :: rest)) :
    ∃ a b, l = a ++ cur :: b ∧ cur.eid ∉ eids a ∧ (a ++ b).Perm rest := by
  obtain ⟨a, b, rfl⟩ := List.append_of_mem (h.mem_iff.mpr (List.mem_cons_self ..))
  refine ⟨a, b, rfl, fun hm => ?_, (List.perm_middle.symm.trans h).cons_inv⟩
  rw [eids_append, eids_cons, List.nodup_append] at hn
  exact hn.2.2 _ hm _ (List.mem_cons_self ..) rfl

theorem replaceObj_perm {l rest : List Env} {cur cur' : Env} (hn : (eids l).Nodup) (h : l.Perm (cur :: rest))
    (he : cur'.eid = cur.eid) : (replaceObj cur' l).Perm (cur' :: rest) := by
  obtain ⟨a, b, rfl, ha, hab⟩ := split_of_perm hn h
  rw [replaceObj_split ha he]
  exact List.perm_middle.trans (hab.cons _)

theorem removeObj_perm {l rest : List Env} {x : Env} (hn : (eids l).Nodup) (h : l.Perm (x :: rest)) :
    (removeObj x.eid l).Perm rest := by
  obtain ⟨a, b, rfl, ha, hab⟩ := split_of_perm hn h
  rwa [removeObj_split ha]

theorem copiesOf_spec (e : Env) (ls : List (List (Nat × Nat))) (n : Nat) :
    slotsOf (copiesOf e ls n) = ls.flatten.map Prod.fst ∧ eids (copiesOf e ls n) = List.range' n ls.length ∧
    ∀ r ∈ copiesOf e ls n, r.sender = e.sender ∧ r.body = e.body := by
  induction ls generalizing n with
  | nil => simp [copiesOf]
  | cons g rest ih =>
    obtain ⟨h1, h2, h3⟩ := ih (n + 1)
    simp [copiesOf, slots, copyEnv, h1, h2, List.range'_succ]
    exact h3

theorem splitCopies_eq (e : Env) (rs : List (Nat × Nat)) (n : Nat) : splitCopies e rs n = copiesOf e (rs.map fun r => [r]) n := by
  induction rs generalizing n with
  | nil => rfl
  | cons r rest ih => simp [splitCopies, copiesOf, ih]

theorem addToGroups_perm (k : Nat) (r : Nat × Nat) (gs : List (Nat × List (Nat × Nat))) :
    ((addToGroups k r gs).flatMap (·.2)).Perm (gs.flatMap (·.2) ++ [r]) := by
  induction gs with
  | nil => simp [addToGroups]
  | cons g rest ih =>
    simp only [addToGroups]
    split
    · simp only [List.flatMap_cons, List.append_assoc]
      exact (List.perm_append_comm (l₁ := [r])).append_left g.2
    · simpa using ih.append_left g.2

/-- `_get_domain_groups` sorts every recipient into exactly one group or among the bad ones. -/
theorem domainGroups_perm (cfg : Cfg) (rs : List (Nat × Nat)) (acc : List (Nat × List (Nat × Nat)) × List (Nat × Nat)) :
    ((domainGroups cfg rs acc).1.flatMap (·.2) ++ (domainGroups cfg rs acc).2).Perm (acc.1.flatMap (·.2) ++ acc.2 ++ rs) := by
  induction rs generalizing acc with
  | nil => simp [domainGroups]
  | cons r rest ih =>
    obtain ⟨groups, bad⟩ := acc
    simp only [domainGroups]
    split
    · rename_i k _
      refine (ih _).trans (List.perm_iff_count.mpr fun a => ?_)
      have := (addToGroups_perm k r groups).count_eq a
      simp only [List.count_append, List.count_cons, List.count_nil] at this ⊢
      omega
    · exact (ih _).trans (by simp)

/-- `out` carries what `inp` carried: between them its members have the recipient slots of the members of `inp`, each once, and
    every one has the sender and body of a member of `inp`. -/
def Outs (inp out : List Env) : Prop :=
  (slotsOf out).Perm (slotsOf inp) ∧ ∀ y ∈ out, ∃ e ∈ inp, y.sender = e.sender ∧ y.body = e.body

theorem Outs.refl (l : List Env) : Outs l l := ⟨.refl _, fun y hy => ⟨y, hy, rfl, rfl⟩⟩

theorem Outs.trans {a b c : List Env} (h : Outs a b) (h' : Outs b c) : Outs a c :=
  ⟨h'.1.trans h.1, fun y hy => by
    obtain ⟨r, hr, hs, hb⟩ := h'.2 y hy
    obtain ⟨e, he, hs', hb'⟩ := h.2 r hr
    exact ⟨e, he, hs.trans hs', hb.trans hb'⟩⟩

theorem Outs.append {a b a' b' : List Env} (h : Outs a b) (h' : Outs a' b') : Outs (a ++ a') (b ++ b') :=
  ⟨by simpa using h.1.append h'.1, fun y hy => by
    rcases List.mem_append.mp hy with hy | hy
    · obtain ⟨e, he, hsb⟩ := h.2 y hy; exact ⟨e, List.mem_append_left _ he, hsb⟩
    · obtain ⟨e, he, hsb⟩ := h'.2 y hy; exact ⟨e, List.mem_append_right _ he, hsb⟩⟩

/-- What a policy may hand on for `e` while the identities from `next` on are unused (`apply` yields the mutated input, the returned
    list if any, and the allocator): the list or else the input itself carries what `e` carried, and every member has the identity
    of `e` or a fresh one. -/
def Handed (e : Env) (next : Nat) : Env × Option (List Env) × Nat → Prop
  | (e', ret?, next') =>
    e'.eid = e.eid ∧ next ≤ next' ∧ Outs [e] (ret?.getD [e']) ∧
    (eids (ret?.getD [e'])).Nodup ∧ ∀ a ∈ eids (ret?.getD [e']), (a = e.eid ∨ next ≤ a) ∧ a < next'

theorem apply_spec (cfg : Cfg) (p : Pol) {e : Env} {next : Nat} (hlt : e.eid < next) : Handed e next (apply cfg p e next) := by
  -- nothing returned, the input mutated in place with its slots kept
  have keep (e' : Env) (he : e'.eid = e.eid) (hs : slots e' = slots e) (hsb : e'.sender = e.sender ∧ e'.body = e.body) :
      Handed e next (e', none, next) := by simp [Handed, Outs, he, hs, hsb, hlt]
  -- deep copies returned, one per list of `ls`
  have copies (ls : List (List (Nat × Nat))) (hp : ls.flatten.Perm e.rcpts) :
      Handed e next (e, some (copiesOf e ls next), next + ls.length) := by
    obtain ⟨h1, h2, h3⟩ := copiesOf_spec e ls next
    refine ⟨rfl, Nat.le_add_right .., ⟨by simpa using h1 ▸ hp.map _, fun r hr => ⟨e, List.mem_singleton_self _, h3 r hr⟩⟩,
      h2 ▸ List.nodup_range', fun a ha => ?_⟩
    rw [Option.getD_some, h2, List.mem_range'_1] at ha; omega
  cases p <;> simp only [apply]
  case split =>
    split
    · exact keep e rfl rfl ⟨rfl, rfl⟩
    · simpa [splitCopies_eq] using copies (e.rcpts.map fun r => [r]) (by rw [← List.flatMap_def, List.flatMap_singleton'])
  case domainSplit =>
    split
    · exact keep e rfl rfl ⟨rfl, rfl⟩
    · exact copies _ (by simpa [← List.flatMap_def] using domainGroups_perm cfg e.rcpts ([], []))
  case peel =>
    split
    · rename_i r r2 rs hr
      simp [Handed, Outs, slots, copyEnv, hr]; omega
    · exact keep e rfl rfl ⟨rfl, rfl⟩
  case forward => exact keep _ rfl (by simp [slots, List.map_map, Function.comp_def]) ⟨rfl, rfl⟩
  -- the three header policies: only the headers change
  all_goals exact keep _ rfl rfl ⟨rfl, rfl⟩

structure Good (st : St) : Prop where
  nodup : (eids st.results).Nodup
  bound : ∀ x ∈ st.results, x.eid < st.next

theorem Good.of_perm {l l' : List Env} {n : Nat} (h : (eids l').Perm (eids l)) (hg : Good ⟨l, n⟩) : Good ⟨l', n⟩ :=
  ⟨h.nodup_iff.mpr hg.nodup, fun x hx => by
    obtain ⟨y, hy, e⟩ := List.mem_map.mp (h.subset (mem_eids hx))
    exact e ▸ hg.bound y hy⟩

theorem Handed.good {e e' : Env} {ret? : Option (List Env)} {rest : List Env} {next next' : Nat}
    (h : Handed e next (e', ret?, next')) (hg : Good ⟨e :: rest, next⟩) : Good ⟨ret?.getD [e'] ++ rest, next'⟩ := by
  obtain ⟨-, hnx, -, hnd, hid⟩ := h
  obtain ⟨hn0, hb0⟩ := hg
  rw [eids_cons, List.nodup_cons] at hn0
  have hb (x : Env) (hx : x ∈ rest) : x.eid < next := hb0 x (List.mem_cons_of_mem _ hx)
  refine ⟨?_, fun x hx => ?_⟩
  · refine eids_append .. ▸ List.nodup_append.mpr ⟨hnd, hn0.2, fun a ha b hb' hab => ?_⟩
    obtain ⟨x, hx, rfl⟩ := List.mem_map.mp hb'
    -- none of the others has the identity of `e`, and all of them are older than every fresh copy
    rcases (hid a ha).1 with h1 | h1
    · exact hn0.1 (h1 ▸ hab ▸ mem_eids hx)
    · have := hb x hx; omega
  · rcases List.mem_append.mp hx with hx | hx
    · exact (hid _ (mem_eids hx)).2
    · exact Nat.lt_of_lt_of_le (hb x hx) hnx

/-- What the calls `recurse(env, i)` for the members of `todo`, one after the other, do to the result list, read as a multiset:
    `todo` gives way to its outputs, the others (`rest`) stay. -/
def Spec (todo : List Env) (st st' : St) : Prop :=
  ∀ rest, st.results.Perm (todo ++ rest) →
    Good st' ∧ st.next ≤ st'.next ∧ ∃ out, st'.results.Perm (out ++ rest) ∧ Outs todo out

/-- The `for env in ret: recurse(env, i+1)` loop, given the specification of each call: every member of `todo` gives way to its
    outputs in turn (it is still there when its turn comes, whatever the earlier calls did to the list). -/
theorem fold_spec (f : Env → St → St) (hf : ∀ cur st, Good st → Spec [cur] st (f cur st)) (todo : List Env) :
    ∀ s, Good s → Spec todo s (todo.foldl (fun s env => f env s) s) := by
  induction todo with
  | nil => exact fun s hg rest hp => ⟨hg, Nat.le_refl _, [], hp, .refl _⟩
  | cons e todo ih =>
    intro s hg rest hp
    obtain ⟨g1, n1, o1, ho1, hO1⟩ := hf e s hg (todo ++ rest) hp
    obtain ⟨g2, n2, o2, ho2, hO2⟩ := ih (f e s) g1 (o1 ++ rest) (ho1.trans (List.perm_append_comm_assoc ..))
    refine ⟨g2, Nat.le_trans n1 n2, o1 ++ o2, ?_, hO1.append hO2⟩
    rw [List.append_assoc]; exact ho2.trans (List.perm_append_comm_assoc ..)

theorem recurse_spec (cfg : Cfg) (ps : List Pol) : ∀ cur st, Good st → Spec [cur] st (recurse cfg ps cur st) := by
  induction ps with
  | nil => exact fun cur st hg rest h => ⟨hg, Nat.le_refl _, [cur], h, .refl _⟩
  | cons p ps ih =>
    intro cur st hg rest h
    have hc : cur ∈ st.results := h.mem_iff.mpr (List.mem_cons_self ..)
    have hsp := apply_spec cfg p (hg.bound cur hc)
    simp only [recurse]
    generalize apply cfg p cur st.next = r at hsp ⊢
    obtain ⟨cur', ret?, next'⟩ := r
    have hG : Good ⟨ret?.getD [cur'] ++ rest, next'⟩ := hsp.good (hg.of_perm (h.symm.map _))
    obtain ⟨he, hnx, hO, -, -⟩ := hsp
    have hrep := replaceObj_perm hg.nodup h he
    cases ret? with
    | none =>
      obtain ⟨g2, n2, out, ho, hout⟩ := ih cur' _ (hG.of_perm (hrep.map _)) rest hrep
      exact ⟨g2, Nat.le_trans hnx n2, out, ho, hO.trans hout⟩
    | some ret =>
      have hrem : (removeObj cur'.eid (replaceObj cur' st.results) ++ ret).Perm (ret ++ rest) :=
        ((removeObj_perm ((eids_replaceObj cur' st.results).symm ▸ hg.nodup) hrep).append_right ret).trans List.perm_append_comm
      obtain ⟨g3, n3, out, ho, hout⟩ := fold_spec _ ih ret _ (hG.of_perm (hrem.map _)) rest hrem
      exact ⟨g3, Nat.le_trans hnx n3, out, ho, hO.trans hout⟩

end Slimta.Policy
