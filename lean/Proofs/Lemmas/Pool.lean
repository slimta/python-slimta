import Model.Pool
/-! For the relay-pool transition system (`Model/Pool.lean`): what `set` and `eraseIdx` do to a quantity counted or summed over the
    clients (`held`, `sumW`); `step` read by cases (`Step`, `step_cases`); and `run_preserves`, by which a step invariant holds after
    every trace. -/
namespace Slimta.Pool

/-- A list around its `i`-th element: what `set` and `eraseIdx` do there. Every lemma below about a quantity summed or counted
    over the clients follows from it and the quantity's `append` lemma. -/
theorem split_at {α} {l : List α} {i : Nat} {x : α} (h : l[i]? = some x) :
    ∃ a b, l = a ++ x :: b ∧ l.eraseIdx i = a ++ b ∧ ∀ y, l.set i y = a ++ y :: b := by
  obtain ⟨hi, rfl⟩ := List.getElem?_eq_some_iff.mp h
  exact ⟨l.take i, l.drop (i + 1), by rw [← List.drop_eq_getElem_cons, List.take_append_drop], List.eraseIdx_eq_take_drop_succ ..,
    fun y => by rw [List.set_eq_take_append_cons_drop, if_pos hi]⟩

def held (r : Nat) (cl : List CSt) : Nat := cl.countP (CSt.holds r)

theorem held_set {r : Nat} {cl : List CSt} {c : Nat} {old st : CSt} (h : cl[c]? = some old) :
    held r (cl.set c st) + (if old.holds r then 1 else 0) = held r cl + (if st.holds r then 1 else 0) := by
  obtain ⟨a, b, rfl, -, hs⟩ := split_at h
  simp only [held, hs, List.countP_append, List.countP_cons]; omega

theorem held_eraseIdx_exiting {r : Nat} {cl : List CSt} {c : Nat} (h : cl[c]? = some .exiting) :
    held r (cl.eraseIdx c) = held r cl := by
  obtain ⟨a, b, rfl, he, -⟩ := split_at h
  simp [held, he, List.countP_append, CSt.holds]

/-! ### a weighted sum over the clients, for the termination measure -/

def sumW (w : CSt → Nat) : List CSt → Nat
  | [] => 0
  | c :: cs => w c + sumW w cs

theorem sumW_append (w : CSt → Nat) (a b : List CSt) : sumW w (a ++ b) = sumW w a + sumW w b := by
  induction a with
  | nil => simp [sumW]
  | cons x xs ih => simp [sumW, ih]; omega

theorem sumW_set (w : CSt → Nat) {cl : List CSt} {c : Nat} {old st : CSt} (h : cl[c]? = some old) :
    sumW w (cl.set c st) + w old = sumW w cl + w st := by
  obtain ⟨a, b, rfl, -, hs⟩ := split_at h
  simp only [hs, sumW_append, sumW]; omega

theorem sumW_eraseIdx (w : CSt → Nat) {cl : List CSt} {c : Nat} {old : CSt} (h : cl[c]? = some old) :
    sumW w (cl.eraseIdx c) + w old = sumW w cl := by
  obtain ⟨a, b, rfl, he, -⟩ := split_at h
  simp only [he, sumW_append, sumW]; omega

def CSt.isExiting : CSt → Bool
  | .exiting => true
  | _ => false

theorem all_eraseIdx_exiting {cl : List CSt} {c : Nat} (h : cl[c]? = some .exiting) :
    (cl.eraseIdx c).all CSt.isExiting = cl.all CSt.isExiting := by
  obtain ⟨a, b, rfl, he, -⟩ := split_at h
  simp [he, CSt.isExiting]

theorem all_false_of_getElem {cl : List CSt} {c : Nat} {st : CSt} (h : cl[c]? = some st) (hst : st.isExiting = false) :
    cl.all CSt.isExiting = false := by
  rw [List.all_eq_false]
  exact ⟨st, List.mem_of_getElem? h, by simp [hst]⟩

/-- What a label does to client `c` and around it: the client's state before and after, the queue and the results after. -/
inductive Move (rf : Bool) (s : State) (c : Nat) : Label → CSt → CSt → List Nat → List Nat → Prop
  | take {r q ru} : s.queue = r :: q → Move rf s c (.poll c) (.ready ru) (.busy r ru) q s.resulted
  | wait {ru} : Move rf s c (.poll c) (.ready ru) (.idle ru) s.queue s.resulted
  | wake {r q ru} : s.queue = r :: q → Move rf s c (.wake c) (.idle ru) (.busy r ru) q s.resulted
  | expireAgain {ru} : Move rf s c (.expire c) (.idle ru) (.ready false) s.queue s.resulted
  | expire {ru} : Move rf s c (.expire c) (.idle ru) .exiting s.queue s.resulted
  | finishAgain {r ru} : Move rf s c (.finish c) (.busy r ru) (.ready true) s.queue (r :: s.resulted)
  | finish {r ru} : Move rf s c (.finish c) (.busy r ru) .exiting s.queue (r :: s.resulted)
  | fail {r ru} : Move rf s c (.fail c) (.busy r ru) .exiting s.queue (r :: s.resulted)
  | requeue {r ru} : ru || rf → Move rf s c (.requeue c) (.busy r ru) .exiting (r :: s.queue) s.resulted
  | drop {ru} : Move rf s c (.drop c) (.ready ru) .exiting s.queue s.resulted

/-- `step` read by cases once (`step_cases`): the facts about every step are case analyses of this, not of the definition. A branch
    is a case of its own where it ends in a differently shaped state; of its guards it keeps those that a proof reads. -/
inductive Step (rf : Bool) (s : State) : Label → State → Prop
  | attempt {r} : r ∉ s.attempted →
      Step rf s (.attempt r) { checkIdle s with queue := (checkIdle s).queue ++ [r], attempted := r :: (checkIdle s).attempted }
  | client {l c old st q res} : s.clients[c]? = some old → Move rf s c l old st q res →
      Step rf s l (setSt { s with queue := q, resulted := res } c st)
  | unlink {c} : s.clients[c]? = some .exiting → (s.queue ≠ [] → s.clients.eraseIdx c ≠ []) →
      Step rf s (.unlink c) { s with clients := s.clients.eraseIdx c }
  | respawn {c} : s.clients = [.exiting] → s.queue ≠ [] → Step rf s (.unlink c) { s with clients := [.ready false] }

theorem step_cases {rf : Bool} {s s' : State} {l : Label} (hs : step rf s l = some s') : Step rf s l s' := by
  cases l with
  | attempt r => simp only [step] at hs; split at hs <;> cases hs; exact .attempt ‹_›
  | unlink c =>
    simp only [step] at hs
    split at hs <;> cases hs
    rename_i hget
    split
    · rename_i hre
      simp only [Bool.and_eq_true, Bool.not_eq_true', List.isEmpty_eq_false_iff, List.isEmpty_iff] at hre
      -- nothing is left without the client: it was the only one
      obtain ⟨a, b, hab, he, -⟩ := split_at hget
      obtain ⟨rfl, rfl⟩ := List.append_eq_nil_iff.mp (he ▸ hre.2)
      rw [hre.2]
      exact .respawn hab hre.1
    · rename_i hre
      exact .unlink hget (by simpa using hre)
  | _ =>
    simp only [step] at hs
    (repeat' split at hs) <;> cases hs
    -- one goal for each branch that returns a state; what the splits left as hypotheses are the premises of its `Move`
    all_goals exact .client ‹_› (by constructor <;> assumption)

theorem checkIdle_eq (s : State) : checkIdle s = { s with clients := (checkIdle s).clients } := by
  unfold checkIdle; (repeat' split) <;> rfl

theorem step_size {rf : Bool} {s s' : State} {l : Label} (hs : step rf s l = some s') : s'.size = s.size := by
  cases step_cases hs with
  | attempt => show (checkIdle s).size = s.size; rw [checkIdle_eq]
  | _ => rfl

theorem run_preserves {rf : Bool} {P : State → Prop} (hP : ∀ s s' l, P s → step rf s l = some s' → P s') (ls : List Label) :
    ∀ s s', P s → run rf s ls = some s' → P s' := by
  induction ls with
  | nil => intro s s' h hr; cases hr; exact h
  | cons l ls ih =>
    intro s s' h hr
    simp only [run] at hr
    split at hr
    · exact ih _ _ (hP _ _ _ h ‹_›) hr
    · cases hr

end Slimta.Pool
