import Model.Reply
import Proofs.Lemmas.Bytes
/-! `matchLine` is used through `matchLine_of` / `matchLine_some` / `matchLine_none`: a line is the bytes before the
  first LF, less one trailing CR. Appending input to a buffer only continues its scan (`scan_append`), so `recvLoop`
  over any segmentation agrees with one `scan` of the concatenated stream (`recvLoop_spec`). -/
namespace Slimta.Reply

theorem matchLine_of (a r : Bytes) (ha : ∀ b ∈ a, b ≠ 10) : matchLine (a ++ 10 :: r) = some (stripCR a, r) := by
  simp only [matchLine, splitLF_noLF a r ha, List.dropLast_concat]

theorem matchLine_some {i c r : Bytes} (h : matchLine i = some (c, r)) :
    ∃ a, (∀ b ∈ a, b ≠ 10) ∧ i = a ++ 10 :: r ∧ c = stripCR a := by
  unfold matchLine at h
  split at h
  · cases h
  · rename_i heq
    cases h
    obtain ⟨a, rfl, ha, hi⟩ := splitLF_some heq
    exact ⟨a, ha, hi, by rw [List.dropLast_concat]⟩

theorem matchLine_none {i : Bytes} (h : matchLine i = none) : ∀ b ∈ i, b ≠ 10 := by
  unfold matchLine at h
  split at h
  · exact splitLF_none ‹_›
  · cases h

theorem matchLine_append {a c r : Bytes} (x : Bytes) (h : matchLine a = some (c, r)) :
    matchLine (a ++ x) = some (c, r ++ x) := by
  obtain ⟨l, hl, rfl, rfl⟩ := matchLine_some h
  simpa using matchLine_of l (r ++ x) hl

theorem matchLine_encoded (content rest : Bytes) (hc : ∀ b ∈ content, b ≠ 10) :
    matchLine (content ++ CRLF ++ rest) = some (content, rest) := by
  simpa [CRLF, stripCR] using matchLine_of (content ++ [13]) rest (List.forall_mem_append.mpr ⟨hc, by decide⟩)

theorem scan_none {buf : Bytes} (hm : matchLine buf = none) (code : Option Bytes) (lines : List Bytes) :
    scan code lines buf = .needMore code lines buf := by
  rw [scan]; split
  · rfl
  · rename_i h; rw [hm] at h; cases h

theorem scan_some {buf c r : Bytes} (hm : matchLine buf = some (c, r)) (code : Option Bytes)
    (lines : List Bytes) :
    scan code lines buf =
      match parseReplyLine c with
      | none => .bad r
      | some (cd, sep, text) =>
        if code.isSome && code != some cd then .bad buf
        else if sep != 45 then
          (if utf8Ok (joinCRLF (lines ++ [text])) && codeOk cd then .done cd (joinCRLF (lines ++ [text])) r
           else .bad r)
        else scan (some cd) (lines ++ [text]) r := by
  rw [scan]; split
  · rename_i h; rw [hm] at h; cases h
  · rename_i h; rw [hm] at h; cases h; rfl

theorem allLines_none {m : Bytes} (hm : matchLine m = none) : allLines m = [] := by
  rw [allLines]; split
  · rfl
  · rename_i h; rw [hm] at h; cases h

theorem allLines_some {m c r : Bytes} (hm : matchLine m = some (c, r)) : allLines m = c :: allLines r := by
  rw [allLines]; split
  · rename_i h; rw [hm] at h; cases h
  · rename_i h; rw [hm] at h; cases h; rfl

theorem scan_append (code : Option Bytes) (lines : List Bytes) (buf x : Bytes) :
    scan code lines (buf ++ x) =
      match scan code lines buf with
      | .needMore c l b => scan c l (b ++ x)
      | .done c body r => .done c body (r ++ x)
      | .bad r => .bad (r ++ x) := by
  fun_induction scan code lines buf with
  | case1 code lines buf hm => rfl
  | case2 code lines buf c r hm _ hp => simp [scan_some (matchLine_append x hm), hp]
  | case3 code lines buf c r hm _ cd sep text hp hc => simp [scan_some (matchLine_append x hm), hp, hc]
  | case4 code lines buf c r hm _ cd sep text hp hc hs body hu | case5 code lines buf c r hm _ cd sep text hp hc hs body hu =>
    simp [scan_some (matchLine_append x hm), hp, hc, hs, body, hu]
  | case6 code lines buf c r hm _ cd sep text hp hc hs ih =>
    simp [scan_some (matchLine_append x hm), hp, hc, hs, ih]

/-- What `recvLoop` must produce, given the scan of the whole concatenated stream. -/
def Agrees (whole : Scan) (res : Except (Err × Bytes) Result) : Prop :=
  match whole with
  | .done c body rest => ∃ r, res = .ok r ∧ r.code = c ∧ r.body = body ∧ r.recvBuffer ++ r.unread.flatten = rest
  | .bad _ => ∃ rb, res = .error (.badReply, rb)
  | .needMore _ _ _ => ∃ rb, res = .error (.wouldBlock, rb)

theorem recvLoop_spec (segs : List Bytes) (code : Option Bytes) (lines : List Bytes) (buf : Bytes)
    (hne : ∀ s ∈ segs, s ≠ []) :
    Agrees (scan code lines (buf ++ segs.flatten)) (recvLoop code lines buf segs) := by
  induction segs generalizing code lines buf with
  | nil =>
    rw [List.flatten_nil, List.append_nil, recvLoop]
    cases scan code lines buf with
    | done c body r => exact ⟨_, rfl, rfl, rfl, List.append_nil _⟩
    | bad r => exact ⟨_, rfl⟩
    | needMore c' l' b => exact ⟨_, rfl⟩
  | cons seg rest ih =>
    obtain ⟨hseg, hrest⟩ := List.forall_mem_cons.mp hne
    rw [List.flatten_cons, scan_append, recvLoop]
    cases scan code lines buf with
    | done c body r => exact ⟨_, rfl, rfl, rfl, rfl⟩
    | bad r => exact ⟨_, rfl⟩
    | needMore c' l' b =>
      simp only [hseg, List.isEmpty_iff, if_false]
      rw [← List.append_assoc]
      exact ih c' l' (b ++ seg) hrest

def IsCode (c : Bytes) : Prop :=
  ∃ d1 d2 d3, c = [d1, d2, d3] ∧ isDigit d1 = true ∧ isDigit d2 = true ∧ isDigit d3 = true

theorem scan_replyLine {c : Bytes} (hc : IsCode c) {sep : Byte} (hs : sep = 32 ∨ sep = 9 ∨ sep = 45)
    {text : Bytes} (ht : ∀ b ∈ text, b ≠ 10) (code : Option Bytes) (lines : List Bytes) (rest : Bytes) :
    scan code lines (c ++ [sep] ++ text ++ CRLF ++ rest) =
      if code.isSome && code != some c then .bad (c ++ [sep] ++ text ++ CRLF ++ rest)
      else if sep != 45 then
        (if utf8Ok (joinCRLF (lines ++ [text])) && codeOk c then .done c (joinCRLF (lines ++ [text])) rest
         else .bad rest)
      else scan (some c) (lines ++ [text]) rest := by
  obtain ⟨d1, d2, d3, rfl, h1, h2, h3⟩ := hc
  have hsep : (sep == 32 || sep == 9 || sep == 45) = true := by simpa [or_assoc] using hs
  have hp : parseReplyLine ([d1, d2, d3] ++ [sep] ++ text) = some ([d1, d2, d3], sep, text) := by
    simp [parseReplyLine, h1, h2, h3, hsep]
  have hd {d : Byte} (h : isDigit d = true) : d ≠ 10 := by rintro rfl; cases h
  have hs10 : sep ≠ 10 := by rintro rfl; cases hsep
  have hl : ∀ b ∈ [d1, d2, d3] ++ [sep] ++ text, b ≠ 10 := by
    simp only [List.forall_mem_append, List.forall_mem_cons]
    exact ⟨⟨⟨hd h1, hd h2, hd h3, nofun⟩, hs10, nofun⟩, ht⟩
  rw [scan_some (matchLine_encoded _ rest hl), hp]

theorem scan_encodeLines (c : Bytes) (hc : IsCode c) (hk : codeOk c = true) (L : List Bytes) (hL : L ≠ [])
    (acc : List Bytes) (code? : Option Bytes) (hcode : code? = none ∨ code? = some c)
    (hlf : ∀ l ∈ L, ∀ b ∈ l, b ≠ 10) (hu : utf8Ok (joinCRLF (acc ++ L)) = true) (next : Bytes) :
    scan code? acc (encodeLines c L ++ next) = .done c (joinCRLF (acc ++ L)) next := by
  induction L generalizing acc code? with
  | nil => exact absurd rfl hL
  | cons l rest ih =>
    obtain ⟨hl, hlf⟩ := List.forall_mem_cons.mp hlf
    have hcheck : (code?.isSome && code? != some c) = false := by
      rcases hcode with rfl | rfl <;> simp
    cases rest with
    | nil =>
      simp only [encodeLines]
      rw [scan_replyLine hc (Or.inl rfl) hl, hcheck]
      simp [hu, hk]
    | cons l2 rest2 =>
      have e : encodeLines c (l :: l2 :: rest2) ++ next
          = c ++ [45] ++ l ++ CRLF ++ (encodeLines c (l2 :: rest2) ++ next) := by
        simp [encodeLines]
      rw [e, scan_replyLine hc (Or.inr (Or.inr rfl)) hl, hcheck]
      simpa using ih (by simp) (acc ++ [l]) (some c) (Or.inr rfl) hlf (by simpa using hu)

theorem mem_stripCR {x : Bytes} {b : Byte} (h : b ∈ stripCR x) : b ∈ x := by
  unfold stripCR at h
  split at h
  · exact List.dropLast_subset _ h
  · exact h

theorem allLines_noLF (m : Bytes) : ∀ l ∈ allLines m, ∀ b ∈ l, b ≠ 10 := by
  fun_induction allLines m with
  | case1 m h => simp
  | case2 m c r h _ ih =>
    obtain ⟨a, ha, -, rfl⟩ := matchLine_some h
    exact List.forall_mem_cons.mpr ⟨fun b hb => ha b (mem_stripCR hb), ih⟩

theorem stripCR_crlf (a : Bytes) : stripCR a ++ CRLF = a ++ (if a.getLast? == some 13 then [10] else [13, 10]) := by
  rcases List.eq_nil_or_concat a with rfl | ⟨a', v, rfl⟩
  · rfl
  · by_cases hv : v = 13 <;> simp [stripCR, CRLF, hv]

theorem allLines_crlf_ne_nil (r : Bytes) : allLines (r ++ CRLF) ≠ [] := by
  cases hm : matchLine (r ++ CRLF) with
  | none => exact absurd rfl (matchLine_none hm 10 (by simp [CRLF]))
  | some p => rw [allLines_some hm]; simp

theorem joinCRLF_cons (l : Bytes) {rest : List Bytes} (h : rest ≠ []) :
    joinCRLF (l :: rest) = l ++ CRLF ++ joinCRLF rest := by
  cases rest with
  | nil => exact absurd rfl h
  | cons => rfl

theorem joinCRLF_allLines (m : Bytes) : joinCRLF (allLines (m ++ CRLF)) = normCRLF m := by
  fun_induction allLines m with
  | case1 m hm =>
    have hlf := matchLine_none hm
    have h1 := matchLine_encoded m [] hlf
    have h2 := normGo_noLF m hlf false []
    rw [List.append_nil] at h1 h2
    rw [allLines_some h1, allLines_none (m := []) rfl, joinCRLF, normCRLF, h2, normGo, List.append_nil]
  | case2 m c r hm _ ihr =>
    obtain ⟨a, ha, rfl, rfl⟩ := matchLine_some hm
    have e : (if a = [] then false else a.getLast? == some 13) = (a.getLast? == some 13) := by cases a <;> rfl
    rw [allLines_some (matchLine_append CRLF hm), joinCRLF_cons _ (allLines_crlf_ne_nil r), ihr, stripCR_crlf, normCRLF, normCRLF,
      normGo_noLF a ha, e, normGo, List.append_assoc]
    rfl

end Slimta.Reply
