import Model.QueueM
/-!
One delivery attempt (Model/Attempt.lean: `_attempt`, `_handle_partial_relay`, `_retry_later`, `_split_by_reply`): the grouping of
failures by reply, the recipients left in storage after a partial delivery, and — through the two phases the composed queue
machine takes an attempt in (Model/QueueM.lean) — conservation of the recipients and the bounces that answer for the failures.
-/
namespace Slimta.Attempt

def groupRcpts (gs : List (ReplyId × List Rcpt)) : List Rcpt := gs.flatMap (·.2)

@[simp] theorem groupRcpts_nil : groupRcpts [] = [] := rfl

/-- The (recipient, reply) pairs the groups stand for. -/
def flat (gs : List (ReplyId × List Rcpt)) : List (Rcpt × ReplyId) := gs.flatMap fun g => g.2.map (·, g.1)

def keys (gs : List (ReplyId × List Rcpt)) : List ReplyId := gs.map (·.1)

/-- no group is empty, and every member of a group failed with the group's reply -/
def Sound (ps : List (Rcpt × ReplyId)) (gs : List (ReplyId × List Rcpt)) : Prop :=
  ∀ g ∈ gs, g.2 ≠ [] ∧ ∀ rc ∈ g.2, (rc, g.1) ∈ ps

theorem mem_flat {gs : List (ReplyId × List Rcpt)} {x : Rcpt} {r : ReplyId} : (x, r) ∈ flat gs ↔ ∃ g, (r, g) ∈ gs ∧ x ∈ g := by
  simp only [flat, List.mem_flatMap, List.mem_map, Prod.mk.injEq]
  constructor
  · rintro ⟨⟨k, g⟩, hg, a, ha, rfl, rfl⟩; exact ⟨g, hg, ha⟩
  · rintro ⟨g, hg, hx⟩; exact ⟨(r, g), hg, x, hx, rfl, rfl⟩

theorem addToGroup_cases (rc : Rcpt) (rp : ReplyId) (gs : List (ReplyId × List Rcpt)) :
    rp ∉ keys gs ∧ addToGroup rc rp gs = gs ++ [(rp, [rc])] ∨
    ∃ pre g post, gs = pre ++ (rp, g) :: post ∧ addToGroup rc rp gs = pre ++ (rp, g ++ [rc]) :: post := by
  induction gs with
  | nil => exact .inl ⟨List.not_mem_nil, rfl⟩
  | cons g0 rest ih =>
    obtain ⟨k, grp⟩ := g0
    by_cases hk : k = rp
    · exact .inr ⟨[], grp, rest, hk ▸ rfl, by rw [addToGroup, if_pos (beq_iff_eq.mpr hk), hk]; rfl⟩
    · rw [addToGroup, if_neg (mt beq_iff_eq.mp hk)]
      rcases ih with ⟨hn, h⟩ | ⟨pre, g, post, h1, h2⟩
      · exact .inl ⟨fun hm => (List.mem_cons.mp hm).elim (fun e => hk e.symm) hn, by rw [h]; rfl⟩
      · exact .inr ⟨(k, grp) :: pre, g, post, by rw [h1]; rfl, by rw [h2]; rfl⟩

theorem perm_addToGroup (rc : Rcpt) (rp : ReplyId) (gs : List (ReplyId × List Rcpt)) :
    (flat (addToGroup rc rp gs)).Perm ((rc, rp) :: flat gs) := by
  rcases addToGroup_cases rc rp gs with ⟨_, h⟩ | ⟨pre, g, post, rfl, h⟩ <;> rw [h] <;>
    simp only [flat, List.flatMap_append, List.flatMap_cons, List.flatMap_nil, List.map_append, List.map_cons, List.map_nil,
      List.append_nil, List.append_assoc, List.cons_append, List.nil_append]
  · exact List.perm_append_singleton ..
  · rw [← List.append_assoc]; exact List.perm_middle.trans (by rw [List.append_assoc])

theorem perm_splitByReply (ps : List (Rcpt × ReplyId)) (acc : List (ReplyId × List Rcpt)) :
    (flat (splitByReply ps acc)).Perm (ps ++ flat acc) := by
  induction ps generalizing acc with
  | nil => simp [splitByReply]
  | cons p rest ih =>
    obtain ⟨rc, rp⟩ := p
    exact (ih _).trans ((perm_addToGroup rc rp acc).append_left rest |>.trans List.perm_middle)

theorem mem_splitByReply (ps : List (Rcpt × ReplyId)) (x : Rcpt) (r : ReplyId) :
    (∃ g, (r, g) ∈ splitByReply ps [] ∧ x ∈ g) ↔ (x, r) ∈ ps := by
  rw [← mem_flat, (perm_splitByReply ps []).mem_iff]; simp [flat]

theorem count_splitByReply (x : Rcpt) (ps : List (Rcpt × ReplyId)) :
    (groupRcpts (splitByReply ps [])).count x = (ps.map Prod.fst).count x := by
  have e : ∀ gs, groupRcpts gs = (flat gs).map Prod.fst := fun gs => by
    simp [groupRcpts, flat, List.map_flatMap, List.map_map, Function.comp_def]
  rw [e]; exact ((perm_splitByReply ps []).map _).count_eq x |>.trans (by simp [flat])

theorem nonempty_splitByReply (ps : List (Rcpt × ReplyId)) (acc : List (ReplyId × List Rcpt)) (h : ∀ g ∈ acc, g.2 ≠ []) :
    ∀ g ∈ splitByReply ps acc, g.2 ≠ [] := by
  induction ps generalizing acc with
  | nil => exact h
  | cons p rest ih =>
    refine ih _ ?_
    rcases addToGroup_cases p.1 p.2 acc with ⟨_, e⟩ | ⟨pre, g, post, rfl, e⟩ <;> rw [e] <;>
      simp only [List.forall_mem_append, List.forall_mem_cons] at h ⊢
    · exact ⟨h, by simp⟩
    · exact ⟨h.1, by simp, h.2.2⟩

theorem nodup_keys_splitByReply (ps : List (Rcpt × ReplyId)) (acc) (h : (keys acc).Nodup) :
    (keys (splitByReply ps acc)).Nodup := by
  induction ps generalizing acc with
  | nil => exact h
  | cons p rest ih =>
    refine ih _ ?_
    rcases addToGroup_cases p.1 p.2 acc with ⟨hn, e⟩ | ⟨pre, g, post, rfl, e⟩ <;> rw [e]
    · rw [keys, List.map_append]; exact (List.perm_append_singleton ..).nodup_iff.mpr (List.nodup_cons.mpr ⟨hn, h⟩)
    · simpa [keys] using h

theorem sound_mono {ps qs : List (Rcpt × ReplyId)} (hsub : ∀ x ∈ ps, x ∈ qs) {gs} (h : Sound ps gs) : Sound qs gs :=
  fun g hg => ⟨(h g hg).1, fun rc hrc => hsub _ ((h g hg).2 rc hrc)⟩

theorem sound_splitByReply (ps : List (Rcpt × ReplyId)) : Sound ps (splitByReply ps []) :=
  fun g hg => ⟨nonempty_splitByReply ps [] (by simp) g hg, fun rc hrc => (mem_splitByReply ps rc g.1).mp ⟨g.2, hg, hrc⟩⟩

theorem keys_complete (ps : List (Rcpt × ReplyId)) : ∀ p ∈ ps, p.2 ∈ keys (splitByReply ps []) := by
  intro p hp
  obtain ⟨_, hg, _⟩ := (mem_splitByReply ps p.1 p.2).mpr hp
  exact List.mem_map.mpr ⟨_, hg, rfl⟩

def settledOf (res : List (Rcpt × RRes)) : List Rcpt :=
  res.filterMap fun (rc, v) => match v with | .ok | .perm _ => some rc | .temp _ => none
def oksOf (res : List (Rcpt × RRes)) : List Rcpt :=
  res.filterMap fun (rc, v) => match v with | .ok => some rc | _ => none
def permsOf (res : List (Rcpt × RRes)) : List (Rcpt × ReplyId) :=
  res.filterMap fun (rc, v) => match v with | .perm r => some (rc, r) | _ => none
def tempsOf (res : List (Rcpt × RRes)) : List (Rcpt × ReplyId) :=
  res.filterMap fun (rc, v) => match v with | .temp r => some (rc, r) | _ => none

/-- The per-recipient result covers exactly the recipients of the message, each once. -/
def Complete (m : Msg) (res : List (Rcpt × RRes)) : Prop :=
  (res.map Prod.fst).Nodup ∧ m.rcpts.Nodup ∧ ∀ x, x ∈ res.map Prod.fst ↔ x ∈ m.rcpts

/-- Per-recipient results cover the message's recipients (the relay contract); recipients are distinct. -/
def CompleteOutcome (m : Msg) : Outcome → Prop
  | .mapping res => Complete m res
  | .sequence l => Complete m (zipDict m.rcpts l [])
  | _ => m.rcpts.Nodup

theorem Complete.perm {m : Msg} {res : List (Rcpt × RRes)} (hc : Complete m res) : (res.map Prod.fst).Perm m.rcpts :=
  (List.perm_ext_iff_of_nodup hc.1 hc.2.1).mpr hc.2.2

theorem CompleteOutcome.nodup {m : Msg} {o : Outcome} (hc : CompleteOutcome m o) : m.rcpts.Nodup := by
  cases o <;> first | exact hc | exact hc.2.1

theorem count_results (x : Rcpt) (res : List (Rcpt × RRes)) :
    (oksOf res).count x + ((permsOf res).map Prod.fst).count x = (settledOf res).count x ∧
    (settledOf res).count x + ((tempsOf res).map Prod.fst).count x = (res.map Prod.fst).count x := by
  induction res with
  | nil => exact ⟨rfl, rfl⟩
  | cons p rest ih =>
    obtain ⟨rc, v⟩ := p
    cases v <;>
      simp only [settledOf, oksOf, permsOf, tempsOf, List.filterMap_cons, List.map_cons, List.count_cons] at ih ⊢ <;> omega

theorem deliveredIdx_eq (m : Msg) (res : List (Rcpt × RRes)) :
    (res.filterMap fun (rc, v) => match v with
      | .ok | .perm _ => some (m.rcpts.idxOf rc)
      | .temp _ => none) = (settledOf res).map m.rcpts.idxOf := by
  rw [settledOf, List.map_filterMap]
  congr; funext ⟨rc, v⟩; cases v <;> rfl

theorem settled_subset {m : Msg} {res : List (Rcpt × RRes)} (hc : Complete m res) : ∀ x ∈ settledOf res, x ∈ m.rcpts := by
  intro x hx
  obtain ⟨⟨rc, v⟩, hp, he⟩ := List.mem_filterMap.mp hx
  refine (hc.2.2 x).mp (List.mem_map.mpr ⟨(rc, v), hp, ?_⟩)
  cases v <;> simp at he <;> exact he

theorem zipDict_eq (rs : List Rcpt) (vs : List RRes) (acc : List (Rcpt × RRes)) (hn : rs.Nodup)
    (hd : ∀ r ∈ rs, r ∉ acc.map Prod.fst) : zipDict rs vs acc = acc ++ rs.zip vs := by
  induction rs generalizing vs acc with
  | nil => simp [zipDict]
  | cons r rest ih =>
    cases vs with
    | nil => simp [zipDict]
    | cons v vs' =>
      have hr : r ∉ acc.map Prod.fst := hd r (by simp)
      have hany : acc.any (fun p => p.1 == r) = false := by
        simp only [List.any_eq_false, beq_iff_eq]
        intro p hp he
        exact hr (List.mem_map.mpr ⟨p, hp, he⟩)
      simp only [zipDict, hany, Bool.false_eq_true, if_false]
      have hn' := List.nodup_cons.mp hn
      rw [ih vs' (acc ++ [(r, v)]) hn'.2 ?_]
      · simp
      · intro r' hr' hmem
        simp only [List.map_append, List.map_cons, List.map_nil, List.mem_append, List.mem_cons, List.not_mem_nil, or_false] at hmem
        rcases hmem with hmem | rfl
        · exact hd r' (by simp [hr']) hmem
        · exact hn'.1 hr'

/-- **A sequence result of the right length is complete**: the relay contract for relays that answer with a list (one value per
    recipient, in envelope order) over distinct recipients. -/
theorem sequence_complete (m : Msg) (hn : m.rcpts.Nodup) (l : List RRes) (hl : l.length = m.rcpts.length) :
    CompleteOutcome m (.sequence l) := by
  show Complete m (zipDict m.rcpts l [])
  rw [zipDict_eq m.rcpts l [] hn (by simp)]
  have hk : ((m.rcpts.zip l).map Prod.fst) = m.rcpts := by
    rw [List.map_fst_zip]; omega
  simp only [List.nil_append]
  exact ⟨by rw [hk]; exact hn, hn, fun x => by rw [hk]⟩

theorem delIdxAux_filter (l : List Rcpt) (i : Nat) (idxs : List Nat) (S : List Rcpt) (hn : l.Nodup)
    (h : ∀ x ∈ l, idxs.contains (i + l.idxOf x) = S.contains x) :
    delIdxAux idxs i l = l.filter (fun x => !S.contains x) := by
  induction l generalizing i with
  | nil => rfl
  | cons y ys ih =>
    simp only [List.nodup_cons] at hn
    have hy := h y (by simp)
    simp only [List.idxOf_cons_self, Nat.add_zero] at hy
    have htail : ∀ x ∈ ys, idxs.contains (i + 1 + ys.idxOf x) = S.contains x := by
      intro x hx
      have hne : y ≠ x := by intro e; subst e; exact hn.1 hx
      have := h x (by simp [hx])
      rw [List.idxOf_cons, beq_false_of_ne hne, cond_false] at this
      rw [← this]; congr 1; omega
    simp only [delIdxAux, List.filter_cons, hy]
    simp [ih (i + 1) hn.2 htail]

theorem idxOf_inj_of_mem {l : List Rcpt} {a b : Rcpt} (ha : a ∈ l) (hb : b ∈ l) (h : l.idxOf a = l.idxOf b) : a = b := by
  have h1 := List.getElem_idxOf (List.idxOf_lt_length_iff.mpr ha)
  have h2 := List.getElem_idxOf (List.idxOf_lt_length_iff.mpr hb)
  rw [← h1, ← h2]; simp only [h]

theorem deleteIdxs_eq_filter (l : List Rcpt) (S : List Rcpt) (hn : l.Nodup) (hS : ∀ x ∈ S, x ∈ l) :
    deleteIdxs (S.map l.idxOf) l = l.filter (fun x => !S.contains x) := by
  apply delIdxAux_filter l 0 _ S hn
  intro x hx
  simp only [Nat.zero_add]
  rw [Bool.eq_iff_iff]
  simp only [List.contains_iff_mem, List.mem_map]
  constructor
  · rintro ⟨s, hs, he⟩
    have := idxOf_inj_of_mem (hS s hs) hx he
    subst this; exact hs
  · intro hs; exact ⟨x, hs, rfl⟩

theorem delIdxAux_sublist (idxs : List Nat) (i : Nat) (l : List Rcpt) : (delIdxAux idxs i l).Sublist l := by
  induction l generalizing i with
  | nil => exact .slnil
  | cons y ys ih =>
    rw [delIdxAux]; split
    · exact (ih _).cons _
    · exact (ih _).cons_cons _

/-- What is left in storage after a partial delivery: exactly the recipients that were not settled. -/
theorem remaining_rcpts (m : Msg) (res : List (Rcpt × RRes)) (hc : Complete m res) :
    deleteIdxs ((settledOf res).map m.rcpts.idxOf) m.rcpts = m.rcpts.filter (fun x => !(settledOf res).contains x) :=
  deleteIdxs_eq_filter m.rcpts (settledOf res) hc.2.1 (settled_subset hc)

theorem count_remaining (m : Msg) (res : List (Rcpt × RRes)) (hc : Complete m res) (x : Rcpt) :
    (m.rcpts.filter (fun y => !(settledOf res).contains y)).count x = ((tempsOf res).map Prod.fst).count x := by
  have hp := (count_results x res).2
  have hk := hc.perm.count_eq x
  have hle := List.nodup_iff_count.mp hc.1 x
  by_cases hx : x ∈ settledOf res
  · rw [List.count_eq_zero_of_not_mem (by simp [hx])]
    have := List.count_pos_iff.mpr hx
    omega
  · rw [List.count_filter (by simp [hx])]
    have := List.count_eq_zero_of_not_mem hx
    omega

/-! ### histories of attempts, as the statements of C01 and C03 speak of them -/

def restCount (o : StepOut) (x : Rcpt) : Nat := match o.msg with | some m' => m'.rcpts.count x | none => 0

/-- The recipients each attempt of a history is made for, the current message's first. -/
def pres (cfg : Cfg) : Option Msg → List Outcome → List (List Rcpt)
  | none, _ => []
  | some _, [] => []
  | some m, o :: os => m.rcpts :: pres cfg (attempt cfg m o).msg os

def ValidHistory (cfg : Cfg) : Option Msg → List Outcome → Prop
  | none, _ => True
  | some _, [] => True
  | some m, o :: os => CompleteOutcome m o ∧ ValidHistory cfg (attempt cfg m o).msg os

def finalOf (cfg : Cfg) : Option Msg → List Outcome → Option Msg
  | none, _ => none
  | some m, [] => some m
  | some m, o :: os => finalOf cfg (attempt cfg m o).msg os

end Slimta.Attempt

/-! ## One attempt in two phases

`Attempt.attempt` is `QM.phase1` (the relay's answer up to `_retry_later`) followed by `QM.giveUp` or the re-queueing
(`phases_eq_attempt`). Everything about one attempt is proved of the phases — the composed machine takes them one at a time —
and carried to `attempt` through `compose_cases`. -/

namespace Slimta.QM
open Slimta.Attempt

/-- What the two phases add up to, for a backoff answer `b`. -/
def compose (bn : Bool) (m : Msg) (o : Outcome) (b : Option Nat) : StepOut :=
  let p := phase1 bn m o
  match p.pend with
  | none => ⟨none, p.bounces, p.delivered, p.failed, none⟩
  | some pd =>
    match b with
    | none => ⟨none, p.bounces ++ (giveUp bn m.rcpts pd).2, p.delivered, p.failed ++ (giveUp bn m.rcpts pd).1, none⟩
    | some w => ⟨some ⟨pd.newRcpts m.rcpts, m.attempts + 1⟩, p.bounces, p.delivered, p.failed, some w⟩

@[elab_as_elim]
theorem compose_cases {P : StepOut → Prop} (bn : Bool) (m : Msg) (o : Outcome) (b : Option Nat)
    (final : (phase1 bn m o).pend = none →
      P ⟨none, (phase1 bn m o).bounces, (phase1 bn m o).delivered, (phase1 bn m o).failed, none⟩)
    (gaveUp : ∀ pd, (phase1 bn m o).pend = some pd → b = none →
      P ⟨none, (phase1 bn m o).bounces ++ (giveUp bn m.rcpts pd).2, (phase1 bn m o).delivered,
        (phase1 bn m o).failed ++ (giveUp bn m.rcpts pd).1, none⟩)
    (retry : ∀ pd w, (phase1 bn m o).pend = some pd → b = some w →
      P ⟨some ⟨pd.newRcpts m.rcpts, m.attempts + 1⟩, (phase1 bn m o).bounces, (phase1 bn m o).delivered,
        (phase1 bn m o).failed, some w⟩) :
    P (compose bn m o b) := by
  simp only [compose]
  cases hp : (phase1 bn m o).pend with
  | none => exact final hp
  | some pd =>
    cases b with
    | none => exact gaveUp pd hp rfl
    | some w => exact retry pd w hp rfl

theorem bouncesIf_eq (cfg : Cfg) (pairs : List (Rcpt × ReplyId)) (t : Bool) :
    bouncesIf (cfg.senderNonEmpty && cfg.factoryBounces) pairs t = bouncesFor cfg pairs t := rfl

theorem partial1_unf (bn : Bool) (m : Msg) (res : List (Rcpt × RRes)) :
    partial1 bn m res = ⟨oksOf res, permsOf res, bouncesIf bn (permsOf res) false,
      if (tempsOf res).isEmpty then none else some (.part (tempsOf res) ((settledOf res).map m.rcpts.idxOf))⟩ := by
  rw [← deliveredIdx_eq]; rfl

theorem partial1_pend {bn : Bool} {m : Msg} {res : List (Rcpt × RRes)} {pd : Pend} (h : (partial1 bn m res).pend = some pd) :
    pd = .part (tempsOf res) ((settledOf res).map m.rcpts.idxOf) := by
  rw [partial1_unf] at h
  split at h <;> cases h
  rfl

theorem partial_eq (cfg : Cfg) (m : Msg) (res : List (Rcpt × RRes)) :
    handlePartial cfg m res = compose (cfg.senderNonEmpty && cfg.factoryBounces) m (.mapping res) (cfg.backoff (m.attempts + 1)) := by
  have hunf : handlePartial cfg m res =
      if (tempsOf res).isEmpty then ⟨none, bouncesFor cfg (permsOf res) false, oksOf res, permsOf res, none⟩
      else retryLater cfg m (tempsOf res) (deleteIdxs ((settledOf res).map m.rcpts.idxOf) m.rcpts)
        (bouncesFor cfg (permsOf res) false) (oksOf res) (permsOf res) := by
    rw [← deliveredIdx_eq]; rfl
  simp only [hunf, compose, phase1, partial1_unf]
  cases h : (tempsOf res).isEmpty
  · simp only [retryLater, giveUp, Pend.newRcpts, bouncesIf_eq]
    cases cfg.backoff (m.attempts + 1) <;> simp
  · simp [bouncesIf_eq]

/-- **The two-phase split is `Attempt.attempt`.** -/
theorem phases_eq_attempt (cfg : Cfg) (m : Msg) (o : Outcome) :
    attempt cfg m o = compose (cfg.senderNonEmpty && cfg.factoryBounces) m o (cfg.backoff (m.attempts + 1)) := by
  cases o with
  | success => rfl
  | permanent r => rfl
  | transient r | other r =>
    simp only [attempt, compose, phase1, giveUp, Pend.newRcpts]
    cases cfg.backoff (m.attempts + 1) <;> simp
  | mapping res => exact partial_eq cfg m res
  | sequence l => exact partial_eq cfg m _

/-- `bounces` is what has to be asked for when `failed` failed for good: each failure is named under its reply, nobody is named
    twice or without having failed; nothing at all when no bounce is produced (`bn = false`). -/
structure BOk (bn : Bool) (failed : List (Rcpt × ReplyId)) (bounces : List Bounce) : Prop where
  named : bn = true → ∀ x r, (x, r) ∈ failed → ∃ b ∈ bounces, b.reply = r ∧ x ∈ b.rcpts
  quiet : bn = false → bounces = []
  count : bn = true → ∀ x, (bounces.flatMap (·.rcpts)).count x = (failed.map Prod.fst).count x

theorem BOk.nil (bn : Bool) : BOk bn [] [] := ⟨fun _ _ _ h => by simp at h, fun _ => rfl, fun _ _ => rfl⟩

theorem BOk.append {bn : Bool} {f f' : List (Rcpt × ReplyId)} {b b' : List Bounce} (h : BOk bn f b) (h' : BOk bn f' b') :
    BOk bn (f ++ f') (b ++ b') where
  named hb x r hx := by
    rcases List.mem_append.mp hx with hx | hx
    · obtain ⟨c, hc, hc'⟩ := h.named hb x r hx; exact ⟨c, List.mem_append_left _ hc, hc'⟩
    · obtain ⟨c, hc, hc'⟩ := h'.named hb x r hx; exact ⟨c, List.mem_append_right _ hc, hc'⟩
  quiet hb := by rw [h.quiet hb, h'.quiet hb]; rfl
  count hb x := by simp only [List.flatMap_append, List.count_append, List.map_append, h.count hb x, h'.count hb x]

/-- `_perm_fail` per reply group. -/
theorem bok_groups (bn : Bool) (pairs : List (Rcpt × ReplyId)) (t : Bool) : BOk bn pairs (bouncesIf bn pairs t) where
  named hb x r hx := by
    subst hb
    obtain ⟨g, hg, hxg⟩ := (mem_splitByReply pairs x r).mpr hx
    exact ⟨⟨r, g, t⟩, List.mem_map.mpr ⟨(r, g), hg, rfl⟩, rfl, hxg⟩
  quiet hb := by simp [bouncesIf, hb]
  count hb x := by
    subst hb
    have e : (bouncesIf true pairs t).flatMap (·.rcpts) = groupRcpts (splitByReply pairs []) := by
      simp only [bouncesIf, if_true, groupRcpts, List.flatMap_map]
    rw [e, count_splitByReply]

/-- `_perm_fail` of the whole envelope with one reply. -/
theorem bok_whole (bn : Bool) (rcpts : List Rcpt) (r : ReplyId) (t : Bool) :
    BOk bn (rcpts.map fun rc => (rc, r)) (if bn then [⟨r, rcpts, t⟩] else []) where
  named hb x r' hx := by
    obtain ⟨a, ha, he⟩ := List.mem_map.mp hx
    cases he
    exact ⟨⟨r, rcpts, t⟩, by simp [hb], rfl, ha⟩
  quiet hb := by simp [hb]
  count hb x := by simp [hb, List.map_map, Function.comp_def]

theorem phase1_bok (bn : Bool) (m : Msg) (o : Outcome) : BOk bn (phase1 bn m o).failed (phase1 bn m o).bounces := by
  cases o with
  | permanent r => exact bok_whole bn m.rcpts r false
  | mapping res => exact bok_groups bn _ false
  | sequence l => exact bok_groups bn _ false
  | _ => exact BOk.nil bn

theorem giveUp_bok (bn : Bool) (rcpts : List Rcpt) (pd : Pend) : BOk bn (giveUp bn rcpts pd).1 (giveUp bn rcpts pd).2 := by
  cases pd with
  | whole r => exact bok_whole bn rcpts r true
  | part pairs idxs => exact bok_groups bn pairs true

theorem attempt_bok (cfg : Cfg) (m : Msg) (o : Outcome) :
    BOk (cfg.senderNonEmpty && cfg.factoryBounces) (attempt cfg m o).failed (attempt cfg m o).bounces := by
  rw [phases_eq_attempt]
  have h1 := phase1_bok (cfg.senderNonEmpty && cfg.factoryBounces) m o
  exact compose_cases _ m o _ (fun _ => h1) (fun pd _ _ => h1.append (giveUp_bok _ _ pd)) (fun _ _ _ _ => h1)

theorem phase1_count (bn : Bool) (m : Msg) (o : Outcome) (hc : CompleteOutcome m o) (x : Rcpt) :
    (phase1 bn m o).delivered.count x + ((phase1 bn m o).failed.map Prod.fst).count x
      + (match (phase1 bn m o).pend with | none => 0 | some pd => (pd.out m.rcpts).count x) = m.rcpts.count x := by
  have part : ∀ res, Complete m res →
      (partial1 bn m res).delivered.count x + ((partial1 bn m res).failed.map Prod.fst).count x
        + (match (partial1 bn m res).pend with | none => 0 | some pd => (pd.out m.rcpts).count x) = m.rcpts.count x := by
    intro res hres
    have hp := count_results x res
    have hk := hres.perm.count_eq x
    rw [partial1_unf]
    by_cases ht : (tempsOf res).isEmpty = true
    · rw [List.isEmpty_iff.mp ht] at hp; simp [ht] at hp ⊢; omega
    · simp only [ht, Bool.false_eq_true, if_false, Pend.out]; omega
  cases o with
  | success => simp [phase1]
  | permanent r => simp [phase1, List.map_map, Function.comp_def]
  | transient r | other r => simp [phase1, Pend.out]
  | mapping res => exact part res hc
  | sequence l => exact part _ hc

/-- What `set_recipients_delivered` leaves in storage is who is still outstanding. -/
theorem phase1_pendOk (bn : Bool) (m : Msg) (o : Outcome) (hc : CompleteOutcome m o) (pd : Pend)
    (h : (phase1 bn m o).pend = some pd) (x : Rcpt) :
    (pd.newRcpts m.rcpts).count x = (pd.out m.rcpts).count x := by
  have part : ∀ res, Complete m res → (partial1 bn m res).pend = some pd →
      (pd.newRcpts m.rcpts).count x = (pd.out m.rcpts).count x := by
    intro res hres hp
    cases partial1_pend hp
    exact (congrArg (·.count x) (remaining_rcpts m res hres)).trans (count_remaining m res hres x)
  cases o with
  | success => simp [phase1] at h
  | permanent r => simp [phase1] at h
  | transient r | other r => cases h; rfl
  | mapping res => exact part res hc h
  | sequence l => exact part _ hc h

theorem giveUp_out (bn : Bool) (rcpts : List Rcpt) (pd : Pend) : (giveUp bn rcpts pd).1.map Prod.fst = pd.out rcpts := by
  cases pd with
  | whole r => simp [giveUp, Pend.out, List.map_map, Function.comp_def]
  | part pairs idxs => rfl

theorem newRcpts_subset (rcpts : List Rcpt) (pd : Pend) : ∀ x ∈ pd.newRcpts rcpts, x ∈ rcpts := by
  cases pd with
  | whole r => exact fun _ h => h
  | part pairs idxs => exact (delIdxAux_sublist idxs 0 rcpts).subset

/-- **Conservation over both phases**: every recipient of the message is exactly one of: reported delivered, failed for good,
    still stored. -/
theorem compose_count (bn : Bool) (m : Msg) (o : Outcome) (hc : CompleteOutcome m o) (b : Option Nat) (x : Rcpt) :
    (compose bn m o b).delivered.count x + ((compose bn m o b).failed.map Prod.fst).count x
      + restCount (compose bn m o b) x = m.rcpts.count x := by
  have h1 := phase1_count bn m o hc x
  refine compose_cases bn m o b (fun hp => ?_) (fun pd hp _ => ?_) (fun pd w hp _ => ?_) <;> rw [hp] at h1
  · exact h1
  · simp only [restCount, List.map_append, List.count_append, giveUp_out] at h1 ⊢; omega
  · have := phase1_pendOk bn m o hc pd hp x
    simp only [restCount] at h1 ⊢; omega

end Slimta.QM

namespace Slimta.Attempt
open Slimta.QM

theorem attempt_msg (cfg : Cfg) (m : Msg) (o : Outcome) :
    (attempt cfg m o).msg = none ∨
    ∃ pd w, (phase1 (cfg.senderNonEmpty && cfg.factoryBounces) m o).pend = some pd ∧ cfg.backoff (m.attempts + 1) = some w ∧
      (attempt cfg m o).msg = some ⟨pd.newRcpts m.rcpts, m.attempts + 1⟩ := by
  rw [phases_eq_attempt]
  exact compose_cases _ m o _ (fun _ => .inl rfl) (fun _ _ _ => .inl rfl) (fun pd w hp hb => .inr ⟨pd, w, hp, hb, rfl⟩)

theorem attempt_subset (cfg : Cfg) (m m' : Msg) (o : Outcome) (h : (attempt cfg m o).msg = some m') :
    ∀ x ∈ m'.rcpts, x ∈ m.rcpts := by
  rcases attempt_msg cfg m o with h0 | ⟨pd, w, _, _, h1⟩
  · simp [h0] at h
  · cases h.symm.trans h1; exact newRcpts_subset m.rcpts pd

theorem attempt_nodup (cfg : Cfg) (m m' : Msg) (o : Outcome) (hc : CompleteOutcome m o)
    (h : (attempt cfg m o).msg = some m') : m'.rcpts.Nodup := by
  rw [List.nodup_iff_count]
  intro x
  have := phases_eq_attempt cfg m o ▸ compose_count _ m o hc _ x
  simp only [restCount, h] at this
  have hle := List.nodup_iff_count.mp hc.nodup x
  omega

theorem pres_subset (cfg : Cfg) (os : List Outcome) (m : Msg) :
    ∀ l ∈ pres cfg (some m) os, ∀ x ∈ l, x ∈ m.rcpts := by
  induction os generalizing m with
  | nil => simp [pres]
  | cons o rest ih =>
    intro l hl x hx
    simp only [pres, List.mem_cons] at hl
    rcases hl with rfl | hl
    · exact hx
    · cases hm : (attempt cfg m o).msg with
      | none => rw [hm] at hl; simp [pres] at hl
      | some m' =>
        rw [hm] at hl
        exact attempt_subset cfg m m' o hm x (ih m' l hl x hx)

end Slimta.Attempt
