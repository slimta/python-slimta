/-! Lemmas about `List` alone, for the proofs of several regions: `takeWhile` / `dropWhile` on a list whose shape is known (what the
    `strip` functions and the token scanners of the wire models come down to), insertion into a sorted list, and the flag of a
    scanner that looks one element behind. The model writes such functions out for each of its types; the lemmas take the
    function by its equations, so that each of the model's is an instance. -/
namespace Slimta
variable {α : Type} {p : α → Bool}

theorem dropWhile_of_head {l : List α} (h : ∀ c, l.head? = some c → p c = false) : l.dropWhile p = l := by
  cases l with
  | nil => rfl
  | cons y ys => exact List.dropWhile_cons_of_neg (by simp [h y rfl])

theorem rdropWhile_of_last {l : List α} (h : ∀ c, l.getLast? = some c → p c = false) :
    (l.reverse.dropWhile p).reverse = l := by
  rw [dropWhile_of_head (by simpa using h), List.reverse_reverse]

theorem span_of_head {l r : List α} (hl : ∀ y ∈ l, p y = true) (hr : ∀ c, r.head? = some c → p c = false) :
    (l ++ r).takeWhile p = l ∧ (l ++ r).dropWhile p = r := by
  rw [List.takeWhile_append_of_pos hl, List.dropWhile_append_of_pos hl, dropWhile_of_head hr]
  cases r with
  | nil => simp
  | cons y ys => simp [List.takeWhile_cons_of_neg, hr y rfl]

/-- `ins` puts `e` before the first element that `p` picks out (`Sched.insort`, `Mx.insertRec`): the result is the list with `e`
    added, and it is sorted by `key` if the list was, when `p x` says that `e` may stand before `x` and `¬ p x` that it may stand
    after it. -/
theorem insert_perm_sorted (key : α → Nat) (e : α) (ins : List α → List α)
    (h0 : ins [] = [e]) (h1 : ∀ x xs, ins (x :: xs) = if p x then e :: x :: xs else x :: ins xs)
    (hp : ∀ x, p x = true → key e ≤ key x) (hn : ∀ x, p x = false → key x ≤ key e) (l : List α) :
    (ins l).Perm (e :: l) ∧ (l.Pairwise (fun a b => key a ≤ key b) → (ins l).Pairwise (fun a b => key a ≤ key b)) := by
  induction l with
  | nil => rw [h0]; exact ⟨.refl _, fun _ => List.pairwise_singleton ..⟩
  | cons y ys ih =>
    rw [h1]
    cases hy : p y with
    | true =>
      refine ⟨.refl _, fun h => List.pairwise_cons.mpr ⟨fun b hb => ?_, h⟩⟩
      rcases List.mem_cons.mp hb with rfl | hb
      · exact hp _ hy
      · exact Nat.le_trans (hp y hy) ((List.pairwise_cons.mp h).1 b hb)
    | false =>
      refine ⟨(ih.1.cons y).trans (.swap e y ys), fun h => ?_⟩
      obtain ⟨hy', hys⟩ := List.pairwise_cons.mp h
      refine List.pairwise_cons.mpr ⟨fun b hb => ?_, ih.2 hys⟩
      rcases List.mem_cons.mp (ih.1.mem_iff.mp hb) with rfl | hb
      · exact hn y hy
      · exact hy' b hb

theorem head_le_of_sorted {key : α → Nat} {l : List α} (h : l.Pairwise (fun a b => key a ≤ key b)) {x e : α}
    (hx : l.head? = some x) (he : e ∈ l) : key x ≤ key e := by
  cases l with
  | nil => cases hx
  | cons y ys =>
    cases hx
    exact (List.mem_cons.mp he).elim (· ▸ Nat.le_refl _) ((List.pairwise_cons.mp h).1 e)

/-- A scanner that remembers whether the element before was `c` (`normGo`, `Data.stuff`) leaves `b :: rest`, whatever flag it
    started with, with the flag it leaves `rest` with when started with the flag for `b`. -/
theorem lastIs_cons [BEq α] (c b : α) (rest : List α) (f : Bool) :
    (if b :: rest = [] then f else (b :: rest).getLast? == some c) = (if rest = [] then b == c else rest.getLast? == some c) := by
  cases rest with
  | nil => simp
  | cons r0 rs => simp [List.getLast?_cons_cons]

end Slimta
