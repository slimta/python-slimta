import Model.Proxy
import Proofs.Lemmas.Bytes
/-! The socket readers of `Model/Proxy.lean` under any pattern of short reads: `readN` returns exactly the bytes asked for or fails
    on a stream that is too short; `readLineLoop` never asks for more than is left of a line that ends in CRLF, so it stops at
    the line's end exactly (`readLineLoop_exact`) and within 107 bytes in any case. Then the field splitter of the v1 parser. -/
namespace Slimta.Proxy

theorem recv_none {s : Sock} {n : Nat} (h : recv s n = none) : s.stream = [] := by
  simpa [recv] using h

theorem readN_some {target : Nat} {read : Bytes} {s : Sock} {r : Bytes} {s' : Sock}
    (h : readN target read s = some (r, s')) :
    ∃ got, r = read ++ got ∧ s.stream = got ++ s'.stream ∧ got.length = target - read.length := by
  fun_induction readN target read s with
  | case1 read s hlt hr => simp at h
  | case2 read s hlt got s1 hr _ ih =>
    obtain ⟨g2, rfl, hs, hl⟩ := ih h
    obtain ⟨hp, hle, hst⟩ := recv_length (by omega) hr
    refine ⟨got ++ g2, by simp, by simp [hst, hs], ?_⟩
    simp at hl ⊢; omega
  | case3 read s hge =>
    simp at h
    obtain ⟨rfl, rfl⟩ := h
    exact ⟨[], by simp, by simp, by simp; omega⟩

theorem readN_none {target : Nat} {read : Bytes} {s : Sock} (h : readN target read s = none) :
    s.stream.length < target - read.length := by
  fun_induction readN target read s with
  | case1 read s hlt hr =>
    have := recv_none hr
    simp [this]; omega
  | case2 read s hlt got s1 hr _ ih =>
    have := ih h
    obtain ⟨hp, hle, hst⟩ := recv_length (by omega) hr
    simp [hst] at this ⊢; omega
  | case3 read s hge => simp at h

theorem readN_enough {target : Nat} {read : Bytes} {s : Sock}
    (h : target - read.length ≤ s.stream.length) :
    ∃ sh, readN target read s = some (read ++ s.stream.take (target - read.length),
      ⟨s.stream.drop (target - read.length), sh⟩) := by
  cases hr : readN target read s with
  | none => have := readN_none hr; omega
  | some p =>
    obtain ⟨r, s'⟩ := p
    obtain ⟨got, rfl, hs, hl⟩ := readN_some hr
    refine ⟨s'.short, ?_⟩
    rw [hs, ← hl]
    simp

theorem endsCRLF_snoc {x : Bytes} {b : Byte} (h : endsCRLF (x ++ [b]) = true) : b = 10 ∧ endsCR x = true := by
  obtain ⟨t, ht⟩ := endsWith_crlf.mp h
  have e : x ++ [b] = (t ++ [13]) ++ [10] := by simpa using ht
  have h1 := List.append_inj_left' e rfl
  have h2 := List.append_inj_right' e rfl
  simp_all [endsCR]

theorem endsCRLF_snoc_lf {x : Bytes} (h : endsCRLF (x ++ [10]) = true) : endsCR x = true :=
  (endsCRLF_snoc h).2

theorem recv_within {s s1 : Sock} {n : Nat} {got rem payload : Bytes} (hn : 0 < n)
    (hr : recv s n = some (got, s1)) (hs : s.stream = rem ++ payload) (hle : n ≤ rem.length) :
    got ≠ [] ∧ ∃ rem', rem = got ++ rem' ∧ s1.stream = rem' ++ payload := by
  obtain ⟨hg0, hgle, hst⟩ := recv_length hn hr
  refine ⟨List.length_pos_iff.mp hg0, ?_⟩
  rw [hs] at hst
  rcases List.append_eq_append_iff.mp hst with ⟨as, h1, h2⟩ | ⟨bs, h1, h2⟩
  · have : as = [] := by
      have := congrArg List.length h1
      simp at this; exact List.eq_nil_iff_length_eq_zero.mpr (by omega)
    subst this
    exact ⟨[], by simpa using h1.symm, by simpa using h2.symm⟩
  · exact ⟨bs, h1, h2⟩

theorem tryRead_pos {read : Bytes} (h : read.length < 107) :
    0 < min (107 - read.length) (if endsCR read then 1 else 2) := by
  split <;> omega

theorem recv_try {read got : Bytes} {s s1 : Sock} (h : read.length < 107)
    (hr : recv s (min (107 - read.length) (if endsCR read then 1 else 2)) = some (got, s1)) :
    (read ++ got).length ≤ 107 ∧ s.stream = got ++ s1.stream := by
  obtain ⟨_, hle, hst⟩ := recv_length (tryRead_pos h) hr
  exact ⟨by rw [List.length_append]; omega, hst⟩

/-- The loop never asks for more than is left of a line that ends in CRLF: a second byte is
    requested only when the last one read is not CR. -/
theorem tryRead_le {read rem : Bytes} (hend : endsCRLF (read ++ rem) = true) (hrem : rem ≠ []) :
    min (107 - read.length) (if endsCR read then 1 else 2) ≤ rem.length := by
  have hpos : 0 < rem.length := List.length_pos_iff.mpr hrem
  by_cases h1 : rem.length = 1
  · obtain ⟨x, rfl⟩ := List.length_eq_one_iff.mp h1
    rw [(endsCRLF_snoc hend).2]; simp; omega
  · have : (if endsCR read = true then 1 else 2) ≤ 2 := by split <;> omega
    omega

/-- The line `l` is read exactly when CRLF first appears (at a position the loop inspects) at its
    very end: nothing after `l` is touched, whatever the short-read pattern. -/
theorem readLineLoop_exact (l payload : Bytes) (hend : endsCRLF l = true) (hlen : l.length ≤ 107)
    (read : Bytes) (s : Sock) (rem : Bytes) (hl : l = read ++ rem) (hrem : rem ≠ [])
    (hs : s.stream = rem ++ payload)
    (hno : ∀ pre suf, l = pre ++ suf → read.length < pre.length → suf ≠ [] → endsCRLF pre = false) :
    ∃ sh, readLineLoop read s = some (l, ⟨payload, sh⟩) := by
  have hll : l.length = read.length + rem.length := by rw [hl]; simp
  have hpos : 0 < rem.length := List.length_pos_iff.mpr hrem
  fun_induction readLineLoop read s generalizing rem with
  | case1 read s hlt tryRead hr => simp [recv_none hr, hrem] at hs
  | case4 read s hge => omega
  | case2 read s hlt tryRead got s1 hr _ read' hcrlf =>
    obtain ⟨hg, rem', rfl, hs1⟩ := recv_within (tryRead_pos hlt) hr hs (tryRead_le (hl ▸ hend) hrem)
    by_cases hr' : rem' = []
    · subst hr'
      obtain ⟨st, sh⟩ := s1
      simp at hs1 hl; subst hs1 hl
      exact ⟨sh, rfl⟩
    · rw [hno read' rem' (by simp [hl, read']) (by have := List.length_pos_iff.mpr hg; simp [read']; omega) hr'] at hcrlf
      cases hcrlf
  | case3 read s hlt tryRead got s1 hr _ read' hcrlf ih =>
    obtain ⟨hg, rem', rfl, hs1⟩ := recv_within (tryRead_pos hlt) hr hs (tryRead_le (hl ▸ hend) hrem)
    have hr' : rem' ≠ [] := by
      rintro rfl
      rw [List.append_nil] at hl
      exact hcrlf (hl ▸ hend :)
    exact ih rem' (by simp [hl, read']) hr' hs1
      (fun pre suf hps hp hsuf => hno pre suf hps (by simp [read'] at hp; omega) hsuf)
      (by simp [hll, read']; omega) (List.length_pos_iff.mpr hr')

theorem readLineLoop_bound (read : Bytes) (s : Sock) (r : Bytes) (s' : Sock) (hr0 : read.length ≤ 107)
    (h : readLineLoop read s = some (r, s')) :
    r.length ≤ 107 ∧ ∃ got, r = read ++ got ∧ s.stream = got ++ s'.stream := by
  fun_induction readLineLoop read s with
  | case1 read s hlt tryRead hr => simp at h
  | case2 read s hlt tryRead got s1 hr _ read' hcrlf =>
    simp at h
    obtain ⟨rfl, rfl⟩ := h
    obtain ⟨hle, hst⟩ := recv_try hlt hr
    exact ⟨hle, got, rfl, hst⟩
  | case3 read s hlt tryRead got s1 hr _ read' hcrlf ih =>
    obtain ⟨hle, hst⟩ := recv_try hlt hr
    obtain ⟨hb, g2, rfl, hs2⟩ := ih hle h
    exact ⟨hb, got ++ g2, by simp [read'], by rw [hst, hs2]; simp⟩
  | case4 read s hge =>
    simp at h
    obtain ⟨rfl, rfl⟩ := h
    exact ⟨hr0, [], by simp, by simp⟩

theorem readLineLoop_none (read : Bytes) (s : Sock) (h : readLineLoop read s = none) :
    read.length + s.stream.length < 107 := by
  fun_induction readLineLoop read s with
  | case1 read s hlt tryRead hr =>
    have := recv_none hr
    simp [this]; omega
  | case2 read s hlt tryRead got s1 hr _ read' hcrlf => simp at h
  | case3 read s hlt tryRead got s1 hr _ read' hcrlf ih =>
    have := ih h
    simp [read', (recv_try hlt hr).2] at this ⊢
    omega
  | case4 read s hge => simp at h

theorem splitSP_ne_nil (b : Bytes) : splitSP b ≠ [] := by
  fun_induction splitSP b <;> simp

theorem splitSP_noSP (a : Bytes) (h : ∀ b ∈ a, b ≠ 32) : splitSP a = [a] := by
  induction a with
  | nil => rfl
  | cons x r ih =>
    have hx : x ≠ 32 := h x (by simp)
    simp only [splitSP]
    simp [hx, ih (fun b hb => h b (by simp [hb]))]

theorem splitSP_field (a rest : Bytes) (h : ∀ b ∈ a, b ≠ 32) :
    splitSP (a ++ 32 :: rest) = a :: splitSP rest := by
  induction a with
  | nil => simp [splitSP]
  | cons x r ih =>
    have hx : x ≠ 32 := h x (by simp)
    simp only [List.cons_append, splitSP]
    simp [hx, ih (fun b hb => h b (by simp [hb]))]

/-- `b' '.join(parts)` -/
def joinSP : List Bytes → Bytes
  | [] => []
  | [p] => p
  | p :: ps => p ++ 32 :: joinSP ps

theorem joinSP_splitSP (b : Bytes) : joinSP (splitSP b) = b := by
  fun_induction splitSP b with
  | case1 => rfl
  | case2 b rest hb ih =>
    obtain ⟨p, ps, hs⟩ := List.exists_cons_of_ne_nil (splitSP_ne_nil rest)
    rw [hs] at ih ⊢
    simp at hb
    simp [joinSP, ih, hb]
  | case3 b rest hb hs ih => exact absurd hs (splitSP_ne_nil rest)
  | case4 b rest hb p ps hs ih =>
    rw [hs] at ih
    cases ps <;> simpa [joinSP] using ih

theorem parsePort_some {p : Bytes} {v : Nat} (h : parsePort p = some v) :
    p ≠ [] ∧ p.all isDigit = true ∧ v = decVal p ∧ v ≤ 65535 := by
  simp [parsePort] at h
  obtain ⟨⟨h1, h2⟩, h3, rfl⟩ := h
  exact ⟨h1, by simpa using h2, rfl, h3⟩

end Slimta.Proxy
