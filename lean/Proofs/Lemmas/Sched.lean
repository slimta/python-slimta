import Model.Sched
import Proofs.Lemmas.List
/-! Lemmas about the functions of `Model/Sched.lean` (`insort`, the due prefix of a sorted timetable, `tsOf`, `addQueued`, the
    id lists after an update), and `Step`: `step` read by cases. -/
namespace Slimta.Sched

def qIds (s : State) : List Nat := s.queued.map (·.2)
def dIds (s : State) : List Nat := s.deq.map (·.1)
def sIds (s : State) : List Nat := s.stored.map (·.1)

def Sorted (l : List (Nat × Nat)) : Prop := l.Pairwise (fun a b => a.1 ≤ b.1)

theorem mem_qIds {s : State} {id : Nat} : id ∈ qIds s ↔ ∃ t, (t, id) ∈ s.queued := by
  simp [qIds]

theorem insort_spec (e : Nat × Nat) (l : List (Nat × Nat)) : (insort e l).Perm (e :: l) ∧ (Sorted l → Sorted (insort e l)) :=
  insert_perm_sorted Prod.fst e (insort e) rfl (fun _ _ => rfl)
    (fun x h => by simp only [lt, Bool.or_eq_true, decide_eq_true_eq, Bool.and_eq_true, beq_iff_eq] at h; omega)
    (fun x h => by
      simp only [lt, Bool.or_eq_false_iff, decide_eq_false_iff_not, Bool.and_eq_false_iff, beq_eq_false_iff_ne] at h; omega) l

theorem insort_perm (e : Nat × Nat) (l : List (Nat × Nat)) : (insort e l).Perm (e :: l) := (insort_spec e l).1

theorem insort_sorted {e : Nat × Nat} {l : List (Nat × Nat)} (h : Sorted l) : Sorted (insort e l) := (insort_spec e l).2 h

theorem mem_insort {e x : Nat × Nat} {l : List (Nat × Nat)} : x ∈ insort e l ↔ x = e ∨ x ∈ l :=
  (insort_perm e l).mem_iff.trans List.mem_cons

theorem sorted_dropWhile {l : List (Nat × Nat)} (p : Nat × Nat → Bool) (h : Sorted l) : Sorted (l.dropWhile p) :=
  List.Pairwise.sublist (List.dropWhile_sublist p) h

theorem mem_dropWhile_imp {l : List (Nat × Nat)} {p : Nat × Nat → Bool} {e : Nat × Nat} (h : e ∈ l.dropWhile p) : e ∈ l :=
  (List.dropWhile_sublist p).subset h

theorem mem_take_or_drop {l : List (Nat × Nat)} (p : Nat × Nat → Bool) {e : Nat × Nat} (h : e ∈ l) :
    e ∈ l.takeWhile p ∨ e ∈ l.dropWhile p :=
  List.mem_append.mp (List.takeWhile_append_dropWhile (p := p) ▸ h)

/-- Nothing left after the due prefix is due: the first remaining entry is not, and the rest is sorted behind it. -/
theorem dropWhile_not_due {l : List (Nat × Nat)} {now : Nat} (h : Sorted l) {e : Nat × Nat}
    (he : e ∈ l.dropWhile (fun x => decide (x.1 ≤ now))) : now < e.1 := by
  have hne := List.ne_nil_of_mem he
  have h0 := List.head_dropWhile_not _ hne
  have h1 := head_le_of_sorted (sorted_dropWhile _ h) (List.head?_eq_some_head hne) he
  exact Nat.lt_of_lt_of_le (by simpa using h0) h1

theorem due_mem_takeWhile {l : List (Nat × Nat)} {now : Nat} (h : Sorted l) {e : Nat × Nat} (he : e ∈ l) (hd : e.1 ≤ now) :
    e ∈ l.takeWhile (fun x => x.1 ≤ now) :=
  (mem_take_or_drop _ he).resolve_right fun hc => Nat.not_lt.mpr hd (dropWhile_not_due h hc)

theorem tsOf_none {s : State} {id : Nat} : tsOf s id = none ↔ id ∉ sIds s := by
  simp only [tsOf, sIds, Option.map_eq_none_iff, List.find?_eq_none, List.mem_map, not_exists, not_and]
  constructor
  · intro h x hx hxe; exact h x hx (by simp [hxe])
  · intro h x hx; have := h x hx; simpa using this

theorem tsOf_isSome {s : State} {id : Nat} : (tsOf s id).isSome = true ↔ id ∈ sIds s := by
  rw [← Decidable.not_iff_not, ← tsOf_none]; cases tsOf s id <;> simp

theorem mem_of_tsOf {s : State} {id ts : Nat} (h : tsOf s id = some ts) : (id, ts) ∈ s.stored := by
  obtain ⟨e, he, rfl⟩ := Option.map_eq_some_iff.mp h
  have := List.find?_some he
  exact (show e.1 = id by simpa using this) ▸ List.mem_of_find?_eq_some he

theorem find_assoc {l : List (Nat × Nat)} {id ts : Nat} (hn : (l.map (·.1)).Nodup) (h : (id, ts) ∈ l) :
    (l.find? (·.1 == id)).map (·.2) = some ts := by
  induction l with
  | nil => cases h
  | cons y ys ih =>
    obtain ⟨hy, hys⟩ := List.nodup_cons.mp hn
    rcases List.mem_cons.mp h with rfl | h
    · simp
    · have hne : ¬ (y.1 == id) = true := fun he => hy (List.mem_map.mpr ⟨_, h, (beq_iff_eq.mp he).symm⟩)
      rw [List.find?_cons_of_neg (a := y) hne]
      exact ih hys h

theorem tsOf_some {s : State} {id ts : Nat} (hn : (sIds s).Nodup) (h : (id, ts) ∈ s.stored) : tsOf s id = some ts :=
  find_assoc hn h

theorem mem_without {l : List Nat} {id x : Nat} : x ∈ without l id ↔ x ∈ l ∧ x ≠ id := by
  simp [without]

theorem addQueued_cases {P : State → Prop} (s : State) (ts id : Nat) (refuse : id ∈ s.queuedIds ∨ id ∈ s.active → P s)
    (insert : id ∉ s.queuedIds → id ∉ s.active →
      P { s with queued := insort (ts, id) s.queued, queuedIds := id :: s.queuedIds, wake := true }) :
    P (addQueued s ts id) := by
  unfold addQueued
  split <;> rename_i hc <;> simp only [Bool.or_eq_true, List.contains_eq_mem, decide_eq_true_eq, not_or] at hc
  · exact refuse hc
  · exact insert hc.1 hc.2

theorem dIds_append (s : State) (l : List (Nat × Nat)) (c : Cause) :
    (s.deq ++ l.map (fun e => (e.2, c))).map (·.1) = dIds s ++ l.map (·.2) := by
  simp [dIds, List.map_append, List.map_map, Function.comp_def]

theorem not_mem_ids_erase {l : List (Nat × Cause)} {d : Nat × Cause} (hn : (l.map (·.1)).Nodup) (hm : d ∈ l) :
    d.1 ∉ (l.erase d).map (·.1) :=
  (List.nodup_cons.mp (((List.perm_cons_erase hm).map _).nodup_iff.mp hn)).1

theorem mem_ids_erase_of_ne {l : List (Nat × Cause)} {d : Nat × Cause} {x : Nat} (hx : x ∈ l.map (·.1)) (hne : x ≠ d.1) :
    x ∈ (l.erase d).map (·.1) := by
  obtain ⟨e, he, rfl⟩ := List.mem_map.mp hx
  exact List.mem_map.mpr ⟨e, (List.mem_erase_of_ne fun h => hne (congrArg (·.1) h)).mpr he, rfl⟩

theorem mem_setTs_of_ne {l : List (Nat × Nat)} {id w a b : Nat} (h : (a, b) ∈ l) (hne : a ≠ id) :
    (a, b) ∈ l.map (fun e => if e.1 == id then (id, w) else e) :=
  List.mem_map.mpr ⟨(a, b), h, if_neg (by simpa using hne)⟩

theorem setTs_ids (l : List (Nat × Nat)) (id w : Nat) :
    (l.map (fun e => if e.1 == id then (id, w) else e)).map (·.1) = l.map (·.1) := by
  rw [List.map_map]
  refine List.map_congr_left fun e _ => ?_
  simp only [Function.comp]; split <;> simp_all

theorem mem_filter_ne {l : List (Nat × Nat)} {id a b : Nat} (h : (a, b) ∈ l) (hne : a ≠ id) :
    (a, b) ∈ l.filter (fun e => e.1 != id) := by
  simp [List.mem_filter, h, hne]

theorem mem_ids_filter {l : List (Nat × Nat)} {id x : Nat} :
    x ∈ (l.filter (fun e => e.1 != id)).map (·.1) ↔ x ∈ l.map (·.1) ∧ x ≠ id := by
  rw [← mem_without, without, List.filter_map]; rfl

/-- `step` read label by label: the guard in terms of membership, the new state as the model writes it.
    Branches of one label that end in differently shaped states are separate cases (`done` keeps the model's `if` on the relay's answer). -/
inductive Step (s : State) : Label → State → Prop
  | write (id ts : Nat) : id ∉ s.known → id ∉ sIds s → ts ≤ s.now →
      Step s (.write id ts) { s with stored := (id, ts) :: s.stored, written := id :: s.written, known := id :: s.known }
  | activate (id : Nat) : id ∈ s.written → id ∉ s.active →
      Step s (.activate id) (handOff { s with written := without s.written id } id .enqueue)
  | activateActive (id : Nat) : id ∈ s.written → id ∈ s.active →
      Step s (.activate id) { s with written := without s.written id }
  | announce (id ts : Nat) : (id, ts) ∈ s.stored ∨ id ∈ s.known ∧ id ∈ sIds s →
      Step s (.announce id ts) (addQueued { s with known := if id ∈ s.known then s.known else id :: s.known } ts id)
  | tick (dt : Nat) : Step s (.tick dt) { s with now := s.now + dt }
  | sched : s.turn = false → schedEnabled s = true → Step s .sched (schedCut s)
  | sleep : s.turn = true → Step s .sleep (schedSleep s)
  | dequeue (id : Nat) (c : Cause) : (id, c) ∈ s.deq → id ∈ sIds s → id ∉ s.active →
      Step s (.dequeue id c) (handOff { s with deq := s.deq.erase (id, c) } id c)
  | dequeueSkip (id : Nat) (c : Cause) : (id, c) ∈ s.deq → id ∉ sIds s ∨ id ∈ s.active →
      Step s (.dequeue id c) { s with deq := s.deq.erase (id, c) }
  | done (id : Nat) (ok : Bool) : id ∈ s.inflight →
      Step s (.done id ok) (if ok then { s with inflight := without s.inflight id, rem := id :: s.rem }
                            else { s with inflight := without s.inflight id, retry := id :: s.retry })
  | retryNone (id : Nat) : id ∈ s.retry → Step s (.retry id none) { s with retry := without s.retry id, rem := id :: s.rem }
  | retrySome (id w : Nat) : id ∈ s.retry →
      Step s (.retry id (some w)) { s with retry := without s.retry id, retrying := id :: s.retrying,
                                           stored := s.stored.map (fun e => if e.1 == id then (id, w) else e) }
  | requeue (id w : Nat) : id ∈ s.retrying → tsOf s id = some w →
      Step s (.requeue id) (addQueued { s with retrying := without s.retrying id, active := without s.active id } w id)
  | remove (id : Nat) : id ∈ s.rem →
      Step s (.remove id) { s with rem := without s.rem id, stored := s.stored.filter (·.1 != id),
                                    queuedIds := without s.queuedIds id, active := without s.active id }
  | poke : Step s .poke { s with wake := false, poked := s.poked || s.asleep.isSome }
  | flush : Step s .flush { s with deq := s.deq ++ s.queued.map (fun e => (e.2, Cause.flush)), queued := [], queuedIds := [] }

theorem step_cases {s s' : State} {l : Label} (h : step s l = some s') : Step s l s' := by
  cases l <;> simp only [step, Option.ite_none_left_eq_some, Option.ite_none_right_eq_some, Option.some.injEq,
    Bool.or_eq_true, Bool.and_eq_true, Bool.not_eq_true', List.contains_eq_mem, decide_eq_true_eq, tsOf_isSome, not_or,
    Nat.not_lt] at h
  case write id ts => obtain ⟨⟨⟨a, b⟩, c⟩, rfl⟩ := h; exact .write id ts a b c
  case activate id =>
    obtain ⟨a, rfl⟩ := h
    split
    · exact .activateActive id a ‹_›
    · exact .activate id a ‹_›
  case announce id ts => obtain ⟨a, rfl⟩ := h; exact .announce id ts a
  case tick dt => subst h; exact .tick dt
  case sched => obtain ⟨⟨a, b⟩, rfl⟩ := h; exact .sched a b
  case sleep => obtain ⟨a, rfl⟩ := h; exact .sleep a
  case dequeue id c =>
    obtain ⟨a, rfl⟩ := h
    have e : ∀ d, tsOf { s with deq := d } id = tsOf s id := fun _ => rfl
    simp only [e, Option.isNone_iff_eq_none, tsOf_none]
    by_cases hs : id ∈ sIds s
    · rw [if_neg (not_not_intro hs)]
      by_cases ha : id ∈ s.active
      · rw [if_pos ha]; exact .dequeueSkip id c a (.inr ha)
      · rw [if_neg ha]; exact .dequeue id c a hs ha
    · rw [if_pos hs]; exact .dequeueSkip id c a (.inl hs)
  case done id ok => obtain ⟨a, rfl⟩ := h; exact .done id ok a
  case retry id w =>
    obtain ⟨a, h⟩ := h
    cases w <;> cases h
    · exact .retryNone id a
    · exact .retrySome id _ a
  case requeue id =>
    obtain ⟨a, h⟩ := h
    split at h <;> cases h
    exact .requeue id _ a ‹_›
  case remove id => obtain ⟨a, rfl⟩ := h; exact .remove id a
  case poke => subst h; exact .poke
  case flush => subst h; exact .flush

end Slimta.Sched
