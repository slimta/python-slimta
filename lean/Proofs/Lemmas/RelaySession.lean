import Model.RelaySession
/-! What a delivery of the command model writes: every stage of `deliver` extends the commands written so far by a tail
    (`Tail`) that holds no MAIL and that ends clean whenever the connection is kept. -/
namespace Slimta.RelaySession

/-- `o` continues the commands `pre` by commands other than MAIL, and if it keeps the connection the last command is RSET, or
    the message data, which was then accepted. -/
def Tail (pre : List Cmd) (o : Out) : Prop :=
  (∃ x, o.cmds = pre ++ x ∧ .mail ∉ x) ∧ (o.alive = true → o.cmds.getLast? = some (if o.delivered then .body else .rset))

theorem Tail.dead {pre : List Cmd} (x : List Cmd) (hx : .mail ∉ x := by simp) : Tail pre (dead (pre ++ x)) :=
  ⟨⟨x, rfl, hx⟩, by simp [RelaySession.dead]⟩

theorem Tail.append {pre y : List Cmd} {o : Out} (h : Tail (pre ++ y) o) (hy : .mail ∉ y := by simp) : Tail pre o := by
  obtain ⟨⟨x, hc, hx⟩, hl⟩ := h
  exact ⟨⟨y ++ x, by simp [hc], by simp [hx, hy]⟩, hl⟩

theorem failRset_tail {cmds : List Cmd} {as : List Ans} : Tail cmds (failRset cmds as) := by
  unfold failRset; split
  · exact .dead _
  · exact ⟨⟨[.rset], rfl, by simp⟩, by simp⟩

theorem afterEnvelope_tail (lmtp p : Bool) (cmds : List Cmd) (m : Nat) (rs : List Nat) (d : Nat) (as : List Ans) :
    Tail cmds (afterEnvelope lmtp p cmds m rs d as) := by
  unfold afterEnvelope
  dsimp only
  -- the outer `if` by `iteInduction`, not `split`: on a goal of this size `split` is dear
  refine iteInduction (fun _ => ?_) fun _ => ?_
  · split
    · split
      · split
        · exact .dead _
        · exact ⟨⟨[.empty, .rset], rfl, by simp⟩, by simp⟩
      · split
        · exact .dead _
        · exact failRset_tail.append
    · exact failRset_tail
  · split
    · exact .dead _
    · split
      · exact failRset_tail.append
      · exact ⟨⟨[.body], rfl, by simp⟩, by simp⟩

theorem deliver_tail (lmtp p : Bool) (n : Nat) (as : List Ans) : Tail [.mail] (deliver lmtp p n as) := by
  have env : ∀ {o}, Tail ([Cmd.mail] ++ List.replicate n Cmd.rcpt ++ [Cmd.data]) o → Tail [.mail] o := fun h =>
    (List.append_assoc .. ▸ h).append (by simp [List.mem_replicate])
  have dead : Tail [.mail] (dead ([Cmd.mail] ++ List.replicate n Cmd.rcpt ++ [Cmd.data])) :=
    List.append_assoc .. ▸ .dead _ (by simp [List.mem_replicate])
  unfold deliver
  dsimp only
  cases p with
  | true =>
    rw [if_pos rfl]
    split
    · exact dead
    · split
      · exact env (afterEnvelope_tail ..)
      · exact dead
  | false =>
    rw [if_neg Bool.false_ne_true]
    split
    · exact .dead []
    · split
      · exact failRset_tail
      · split
        · exact .dead _ (by simp [List.mem_replicate])
        · split
          · exact dead
          · exact env (afterEnvelope_tail ..)

/-- The commands of one delivery: MAIL first and only there. -/
def Shape (cmds : List Cmd) : Prop := ∃ tl, cmds = .mail :: tl ∧ .mail ∉ tl

theorem deliver_shape (lmtp p : Bool) (n : Nat) (as : List Ans) : Shape (deliver lmtp p n as).cmds :=
  (deliver_tail lmtp p n as).1

/-- In a command list, every MAIL that is not the first command comes right after RSET or after message data. -/
def MailAfterClean : List Cmd → Prop
  | a :: b :: rest => (b = .mail → a = .rset ∨ a = .body) ∧ MailAfterClean (b :: rest)
  | _ => True

theorem mailAfterClean_noMail : ∀ (x : Cmd) (l : List Cmd), .mail ∉ l → MailAfterClean (x :: l)
  | _, [], _ => trivial
  | _, b :: rest, h => by
    have hb : b ≠ .mail := fun e => h (by simp [e])
    exact ⟨fun e => absurd e hb, mailAfterClean_noMail b rest (fun hm => h (List.mem_cons_of_mem _ hm))⟩

theorem mailAfterClean_append : ∀ (l : List Cmd) (m : List Cmd), MailAfterClean l → MailAfterClean m →
    (∀ a b, l.getLast? = some a → m.head? = some b → b = .mail → a = .rset ∨ a = .body) → MailAfterClean (l ++ m)
  | [], _, _, hm, _ => hm
  | [a], [], _, _, _ => trivial
  | [a], b :: rest, _, hm, hj => ⟨fun e => hj a b rfl rfl e, hm⟩
  | a :: b :: rest, m, hl, hm, hj => by
    refine ⟨hl.1, ?_⟩
    have := mailAfterClean_append (b :: rest) m hl.2 hm (fun x y hx hy => hj x y (by simpa [List.getLast?_cons_cons] using hx) hy)
    simpa using this

/-- For any number of messages on one connection and any peer behaviour; the message data a MAIL comes after was accepted by the
    peer (`deliver_tail`). -/
theorem session_clean (lmtp p : Bool) : ∀ (ns : List Nat) (as : List Ans), MailAfterClean (session lmtp p ns as)
  | [], _ => trivial
  | n :: ns, as => by
    unfold session
    simp only
    obtain ⟨tl, htl, hno⟩ := deliver_shape lmtp p n as
    have h1 : MailAfterClean (deliver lmtp p n as).cmds := htl ▸ mailAfterClean_noMail _ _ hno
    by_cases ha : (deliver lmtp p n as).alive = true
    · rw [if_pos ha]
      refine mailAfterClean_append _ _ h1 (session_clean lmtp p ns _) ?_
      intro a b hla _ _
      cases ((deliver_tail lmtp p n as).2 ha).symm.trans hla
      split <;> simp
    · rw [if_neg ha, List.append_nil]
      exact h1

/-- Examples: one of two recipients refused; both refused (the `354` is answered with an empty message, then RSET); the sender
    refused without PIPELINING; LMTP, a refusal after the data, RSET, and the connection used again. -/
example : (deliver false true 2 [.code 250, .code 550, .code 250, .code 354, .code 250]).cmds = [.mail, .rcpt, .rcpt, .data, .body] := by decide
example : (deliver false true 2 [.code 250, .code 550, .code 550, .code 354, .code 250, .code 250]).cmds = [.mail, .rcpt, .rcpt, .data, .empty, .rset] := by decide
example : (deliver false false 2 [.code 550, .code 250]).cmds = [.mail, .rset] := by decide
example : (session true true [1, 1] [.code 250, .code 250, .code 354, .code 450, .code 250, .code 250, .code 250, .code 354, .code 250]) =
    [.mail, .rcpt, .data, .body, .rset, .mail, .rcpt, .data, .body] := by decide

end Slimta.RelaySession
